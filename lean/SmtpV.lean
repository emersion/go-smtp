import SmtpV.Basic
import SmtpV.Model.Chunked
import SmtpV.Model.Client
import SmtpV.Model.DataReader
import SmtpV.Model.DotWriter
import SmtpV.Model.LateStart
import SmtpV.Model.Lifecycle
import SmtpV.Model.Parse
import SmtpV.Model.Reply
import SmtpV.Model.Server
import SmtpV.Model.StatusChans
import SmtpV.Model.Text
import SmtpV.Model.Wire
import SmtpV.Model.Xtext
import SmtpV.Proofs.AcctInv
import SmtpV.Proofs.BdatEof
import SmtpV.Proofs.BdatGrow
import SmtpV.Proofs.ByteEq
import SmtpV.Proofs.CallRun
import SmtpV.Proofs.ClientLines
import SmtpV.Proofs.ClientRun
import SmtpV.Proofs.ClientTLS
import SmtpV.Proofs.CopyExact
import SmtpV.Proofs.CutLine
import SmtpV.Proofs.DataOnlyMarker
import SmtpV.Proofs.DataRead
import SmtpV.Proofs.DataReader
import SmtpV.Proofs.DataResume
import SmtpV.Proofs.DataSched
import SmtpV.Proofs.DataWire
import SmtpV.Proofs.DotWriterRT
import SmtpV.Proofs.Framing
import SmtpV.Proofs.HandlerCases
import SmtpV.Proofs.LineTrip
import SmtpV.Proofs.OneLine
import SmtpV.Proofs.OrderFacts
import SmtpV.Proofs.ParamGated
import SmtpV.Proofs.ParamSwitch
import SmtpV.Proofs.ParamTrip
import SmtpV.Proofs.PathParse
import SmtpV.Proofs.Projections
import SmtpV.Proofs.ReplyCount
import SmtpV.Proofs.ReplyRT
import SmtpV.Proofs.ReplyWF
import SmtpV.Proofs.Scan
import SmtpV.Proofs.ServerFrame
import SmtpV.Proofs.ServerHandlers
import SmtpV.Proofs.ServerInv
import SmtpV.Proofs.ServerWalk
import SmtpV.Proofs.StatusChans
import SmtpV.Proofs.TextFacts
import SmtpV.Proofs.WireFacts
import SmtpV.Proofs.WireInv
import SmtpV.Proofs.XtextRT
import SmtpV.Props.C01
import SmtpV.Props.C02
import SmtpV.Props.C03
import SmtpV.Props.C04
import SmtpV.Props.C04Echo
import SmtpV.Props.C05
import SmtpV.Props.C06
import SmtpV.Props.C07
import SmtpV.Props.C08
import SmtpV.Props.C08Cut
import SmtpV.Props.C09
import SmtpV.Props.C10
import SmtpV.Props.C11
import SmtpV.Props.C11Server
import SmtpV.Props.C12
import SmtpV.Props.C13
import SmtpV.Props.C14
import SmtpV.Props.C14Line
import SmtpV.Props.C15
import SmtpV.Props.C15Calls
import SmtpV.Props.C16
import SmtpV.Props.C17
import SmtpV.Props.C17Client
import SmtpV.Props.C17Server
import SmtpV.Props.C18
import SmtpV.Props.C19
import SmtpV.Props.C20
import SmtpV.Props.DataMonitor
import SmtpV.Spec.AuthMon
import SmtpV.Spec.ClientMon
import SmtpV.Spec.ClientTLS
import SmtpV.Spec.Codec
import SmtpV.Spec.Data
import SmtpV.Spec.DataMon
import SmtpV.Spec.E2E
import SmtpV.Spec.Events
import SmtpV.Spec.Monitors
import SmtpV.Spec.Order
import SmtpV.Spec.ReplySyntax
import SmtpV.Spec.Rfc5321
