import SmtpV.Basic
/-!
L3b: the start of a chunked delivery against `Conn.Close` (conn.go `handleBdat`, the goroutine's first lines).

The command loop spawns a delivery goroutine and runs on; `Close` (the peer is gone, QUIT, too many errors, the
application) logs the session out and sets `c.session = nil`.  The goroutine looks at the session when it gets to run.
`fixed := false` is the tree before c1a4e24: `c.Session().Data(r)` — a nil session is dereferenced, the panic is
recovered and logged.  `fixed := true`: the goroutine looks first and ends with `ErrDataReset` when there is no session.
A schedule is a list of thread choices (0 = the command loop, k+1 = goroutine k); every schedule is an execution.
-/
namespace SmtpV.LateStart

inductive Op
  | spawn        -- first BDAT of a transfer: `go func() { … }()`
  | close        -- `Conn.Close`: Logout, `c.session = nil`
deriving DecidableEq, Repr

/-- a delivery goroutine: started but not yet run; has looked at the session; inside `Data`; over -/
inductive G | spawned | looked (saw : Bool) | running | ended
deriving DecidableEq, Repr

structure Conf where
  prog : List Op
  sess : Bool := true          -- `c.session != nil`
  gs : List G := []
  panics : Nat := 0            -- recovered panics ("panic serving …" in the error log)
  dataCalls : List Nat := []   -- deliveries whose `Data` call has begun
  lateCalls : Nat := 0         -- `Data` calls that began after the session's Logout
deriving DecidableEq, Repr

def loopStep (c : Conf) : Conf :=
  match c.prog with
  | [] => c
  | .spawn :: p => { c with prog := p, gs := c.gs ++ [.spawned] }
  | .close :: p => { c with prog := p, sess := false }

def gStep (fixed : Bool) (c : Conf) (t : Nat) : Conf :=
  match c.gs[t]? with
  | some .spawned =>
    if fixed then { c with gs := c.gs.set t (.looked c.sess) }         -- `session := c.Session()`
    else if c.sess then                                                 -- `c.Session().Data(r)`
      { c with gs := c.gs.set t .running, dataCalls := c.dataCalls ++ [t] }
    else { c with gs := c.gs.set t .ended, panics := c.panics + 1 }    -- nil dereference, recovered
  | some (.looked true) =>
    { c with gs := c.gs.set t .running, dataCalls := c.dataCalls ++ [t],
             lateCalls := if c.sess then c.lateCalls else c.lateCalls + 1 }
  | some (.looked false) => { c with gs := c.gs.set t .ended }         -- `dataResult <- ErrDataReset`
  | some .running => { c with gs := c.gs.set t .ended }
  | _ => c

def step (fixed : Bool) (c : Conf) : Nat → Conf
  | 0 => loopStep c
  | k + 1 => gStep fixed c k

def exec (fixed : Bool) (c : Conf) (sched : List Nat) : Conf := sched.foldl (step fixed) c

/-! ### the repaired code never panics -/

theorem step_panics (c : Conf) (k : Nat) : (step true c k).panics = c.panics := by
  cases k
  · show (loopStep c).panics = _; unfold loopStep; split <;> rfl
  · show (gStep true c _).panics = _; unfold gStep; split <;> simp

/-! ### a delivery that finds no session never calls the backend -/

/-- the calls that begin are exactly those of deliveries that saw a session: a `looked false` goroutine ends without a call -/
theorem gStep_noSession_ends (c : Conf) (t : Nat) (h : c.gs[t]? = some (.looked false)) :
    (gStep true c t).dataCalls = c.dataCalls ∧ (gStep true c t).gs[t]? = some .ended := by
  have hlt : t < c.gs.length := (List.getElem?_eq_some_iff.mp h).1
  unfold gStep
  rw [h]
  exact ⟨rfl, by simp [hlt]⟩

/-- the state of a delivery that will never reach the backend -/
def Dead (c : Conf) (t : Nat) : Prop :=
  c.sess = false ∧ (c.gs[t]? = some .spawned ∨ c.gs[t]? = some (.looked false) ∨ c.gs[t]? = some .ended) ∧ t ∉ c.dataCalls

theorem dead_step (c : Conf) (t k : Nat) (h : Dead c t) : Dead (step true c k) t := by
  -- the loop never brings the session back, so goroutine `t`, when it looks, sees none and ends; a step of another
  -- goroutine leaves `t`'s state alone and can only put its own index among the calls
  obtain ⟨hs, hg, hd⟩ := h
  have hlt : t < c.gs.length := by
    rcases hg with h | h | h <;> exact (List.getElem?_eq_some_iff.mp h).1
  cases k with
  | zero =>
    show Dead (loopStep c) t
    unfold loopStep
    split
    · exact ⟨hs, hg, hd⟩
    · exact ⟨hs, by simpa only [List.getElem?_append_left hlt] using hg, hd⟩
    · exact ⟨rfl, hg, hd⟩
  | succ u =>
    show Dead (gStep true c u) t
    unfold gStep
    by_cases hut : u = t
    · subst hut
      rcases hg with h | h | h <;> rw [h]
      · exact ⟨hs, Or.inr (Or.inl (hs ▸ List.getElem?_set_self hlt)), hd⟩
      · exact ⟨hs, Or.inr (Or.inr (List.getElem?_set_self hlt)), hd⟩
      · exact ⟨hs, Or.inr (Or.inr h), hd⟩
    · have hg' : ∀ g, (c.gs.set u g)[t]? = some .spawned ∨ (c.gs.set u g)[t]? = some (.looked false) ∨
          (c.gs.set u g)[t]? = some .ended := fun g => by rw [List.getElem?_set_ne hut]; exact hg
      split
      · exact ⟨hs, hg' _, hd⟩
      · exact ⟨hs, hg' _, by simpa using ⟨hd, Ne.symm hut⟩⟩
      · exact ⟨hs, hg' _, hd⟩
      · exact ⟨hs, hg' _, hd⟩
      · exact ⟨hs, hg, hd⟩

/-- when the goroutine gets to run only after `Close`, nothing is called at all -/
theorem late_start_calls_nothing : (exec true { prog := [.spawn, .close] } [0, 0, 1, 1]).dataCalls = [] ∧
    (exec true { prog := [.spawn, .close] } [0, 0, 1, 1]).gs = [.ended] := by decide

end SmtpV.LateStart
