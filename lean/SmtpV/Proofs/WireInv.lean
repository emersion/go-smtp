import SmtpV.Proofs.CutLine
import SmtpV.Proofs.DataResume
import SmtpV.Proofs.ServerWalk
/-!
`WF`, the hypothesis of `C02_resume`, is an invariant of the whole connection: every operation that touches the wire (`readLine`,
the DATA reader, BDAT's `bufRead`/`discardN`/`copyChunk`, the switch to the TLS stream) preserves it; the rest is `Calm`.
-/
namespace SmtpV.Server
open SmtpV SmtpV.Wire SmtpV.DataReader SmtpV.Spec

theorem WF_limit {w : W} (h : WF w) (n : Nat) : WF { w with limit := n } := ⟨h.ne, h.err⟩

theorem WF_resume {w : W} (h : WF w) (n : Nat) (p : Bytes) : WF (Wire.resume w n p) := by
  obtain ⟨c, t, hr⟩ := resume_shape w n p
  rw [hr]
  exact ⟨h.ne, fun he => (h.err he).imp_right fun h1 => by simp [h1]⟩

theorem limRead_wf (w : W) (m : Nat) (h : WF w) (he : w.err = none) : WF (limRead w m).1 := by
  rcases limRead_cases w m with ⟨segs', c, hr, _, hn⟩ | ⟨_, hr⟩ | ⟨bs, segs', c, hr, ht⟩ <;> rw [hr]
  · exact ⟨hn h.ne, fun _ => .inr rfl⟩
  · exact h
  · exact ⟨ht.ne h.ne, fun h' => by rw [he] at h'; cases h'⟩

theorem bufRead_wf (w : W) (m : Nat) (h : WF w) : WF (bufRead w m).1 := by
  fun_cases bufRead w m with
  | case1 => exact ⟨h.ne, nofun⟩                                                      -- the latched error is handed out
  | case2 _ he => exact limRead_wf w m h he                                          -- a read straight into the caller's slice
  | case3 _ he _ w1 e heq => exact (heq ▸ limRead_wf w bufSize h he :)               -- a read into the buffer fails
  | case4 _ he _ w1 bs heq => exact WF_buf (heq ▸ limRead_wf w bufSize h he :) _     -- … or fills it: the head goes out
  | case5 => exact WF_buf h _                                                        -- served from the buffer

theorem discardN_wf (fuel : Nat) (w : W) (n : Nat) : WF w → WF (discardN fuel w n) := by
  fun_induction discardN fuel w n with
  | case1 | case2 => exact id
  | case3 fuel w n _ w1 bs heq ih => exact fun h => ih (heq ▸ bufRead_wf w _ h :)   -- a read, and on with the rest
  | case4 fuel w n _ w1 e heq => exact fun h => (heq ▸ bufRead_wf w _ h :)          -- the source failed

/-- both octet streams of the connection are well-formed: the one in use, and the one inside TLS that a successful
    STARTTLS switches to -/
structure WFS (s : S) : Prop where
  w : WF s.w
  tls : ∀ t, s.tlsW = some t → ∀ x ∈ t.segs, x ≠ []

theorem WFS.of_eq {s s' : S} (h : WFS s) (hw : s'.w = s.w := by rfl) (ht : s'.tlsW = s.tlsW := by rfl) : WFS s' :=
  ⟨hw ▸ h.w, ht ▸ h.tls⟩

theorem WFS.of_calm {s s' : S} (h : WFS s) (hs : Calm s s') : WFS s' := h.of_eq hs.w hs.tlsW

theorem WFS.setW {s : S} (h : WFS s) {w : W} (hw : WF w) : WFS (setW s w) := ⟨hw, h.tls⟩

theorem wfs_connReadLine (s : S) (h : WFS s) : WFS (connReadLine s).1 := by
  unfold connReadLine
  exact ⟨readLine_wf s.w h.w, h.tls⟩

theorem wfs_switchWire (s : S) (h : WFS s) : WFS (switchWire s) := by
  refine ⟨⟨?_, nofun⟩, fun _ ht => nomatch ht⟩
  show ∀ x ∈ (s.tlsW.getD {}).segs, x ≠ []
  cases ht : s.tlsW with
  | none => nofun
  | some t => exact h.tls t ht

theorem wfs_discardChunkN (s : S) (size? : Option Nat) (h : WFS s) : WFS (discardChunkN s size?) := by
  cases size? with
  | none => exact h
  | some n => exact h.setW (WF_resume (discardN_wf _ _ n (WF_limit h.w 0)) _ _)

theorem wf_drain (r : DR) (w : W) (h : WF w) : WF (drain (wireFuel w) r w) :=
  (drain_spec (wireFuel w) r w h (wireFuel_ok w r)).1

theorem wfs_dataSync (s : S) (id : Nat) (h : WFS s) : WFS (dataSync s id).1 := by
  obtain ⟨_, _, hw, ht, _⟩ := dataStart_fields s id
  have hb := (backendRead_spec (wireFuel s.w) (newDataReader s) s.w (popData s).1.want (popData s).1.rsz [] h.w).1
  have h5 : ∀ f, WFS (setDrec (setW (dataStart s id) _) s.drecs.length f) := fun _ => ((h.of_eq hw ht).setW hb).of_eq (setDrec_w _ _ _)
  obtain ⟨ret, ⟨hq, _⟩ | hq⟩ := dataSync_shape s id
  · exact (h5 _).of_calm hq.toCalm
  · exact ((h5 _).setW (wf_drain _ _ hb)).of_calm hq.toCalm

theorem wfs_armLimit (s : S) (h : WFS s) : WFS (armLimit s) := h.setW (WF_resume h.w _ _)

theorem wfs_copyChunk (fuel : Nat) (s : S) (k n cap : Nat) (hl : s.w.limit = 0) (h : WFS s) :
    WFS (copyChunk fuel s k n cap).1 :=
  copyChunk_rel (R := fun _ s s' => WFS s → WFS s') (fun _ h => h) (fun h1 h2 h => h2 (h1 h)) (fun _ h => h)
    (fun s m h => ⟨bufRead_wf s.w m h.w, h.tls⟩)
    k (fun s bs h => let ⟨_, _, hw, ht⟩ := delivWrite_fields s k bs; h.of_eq hw ht)
    fuel s n cap hl h

theorem wfs_bdatAfterCopy (s : S) (k size left : Nat) (last : Bool) (ce : CopyEnd) (h : WFS s) :
    WFS (bdatAfterCopy s k size left last ce).1 := by
  have h1 : WFS (armLimit (addBytesReceived s size)) := wfs_armLimit _ h.of_eq
  rcases bdatAfterCopy_cases s k size left last ce with ⟨err, he⟩ | ⟨_, _, he⟩ | ⟨_, _, he⟩ <;> rw [he]
  · obtain ⟨s', he, hq, _⟩ := bdatFail_shape s k left last err
    rw [he]
    exact wfs_armLimit _ ((h.setW (discardN_wf _ _ _ h.w)).of_calm hq.toCalm)
  · exact h1.of_calm (quiet_write _ _).toCalm
  · exact h1.of_calm (calm_bdatFinal _ _)

theorem wfs_bdatChunk (s : S) (size : Nat) (last : Bool) (h : WFS s) : WFS (bdatChunk s size last).1 := by
  unfold bdatChunk
  dsimp only
  refine wfs_bdatAfterCopy _ _ _ _ _ _ (wfs_copyChunk _ _ _ _ _ rfl ?_)
  have b := bdatBegin_frame (setBdatStatus s)
  have h0 := (h.of_calm (quiet_setBdatStatus s).toCalm).of_eq b.w b.tlsW
  exact h0.setW (WF_limit h0.w 0)

theorem wfs_closed : Closed fun s s' => WFS s → WFS s' where
  refl _ h := h
  trans h1 h2 h := h2 (h1 h)
  quiet hq h := h.of_calm hq.toCalm
  readLine := wfs_connReadLine
  switchWire := wfs_switchWire
  discard := wfs_discardChunkN
  data s id _ := wfs_dataSync s id
  chunk s size last _ := wfs_bdatChunk s size last

end SmtpV.Server
