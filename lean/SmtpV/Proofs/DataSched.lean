import SmtpV.Proofs.DataRead
import SmtpV.Proofs.DataOnlyMarker
/-!
Whole read schedules (`readSched`): any sequence of `Read` calls with any buffer sizes.  `read_spec`, `read_ok` and `read_over`
are the steps of inductions over the schedule.
-/
namespace SmtpV.DataReader
open SmtpV SmtpV.Spec SmtpV.Server

/-- concatenation of the octets returned by a sequence of reads -/
def outs (l : List (Bytes × Res)) : Bytes := (l.map Prod.fst).flatten
@[simp] theorem outs_nil : outs [] = [] := rfl
@[simp] theorem outs_cons (x : Bytes × Res) (l : List (Bytes × Res)) : outs (x :: l) = x.1 ++ outs l := by
  simp [outs]

theorem sched_budget (sizes : List Nat) (r : DR) (inp : Bytes) (hl : r.limited = true) :
    (outs (readSched r inp sizes).1).length ≤ r.n := by
  fun_induction readSched r inp sizes with
  | case1 r inp => exact Nat.zero_le _
  | case2 r inp k ks r' out rest l rf inpf hrec hread ih =>
    have F := read_spec r inp k
    rw [hread] at F
    have := ih (F.limited.trans hl)
    rw [hrec] at this
    rw [outs_cons, List.length_append, ← F.budget hl]
    exact Nat.add_le_add_left this _
  | case3 r inp k ks r' out rest res hread hres =>
    have F := read_spec r inp k
    rw [hread] at F
    rw [outs_cons, outs_nil, List.append_nil, ← F.budget hl]
    exact Nat.le_add_right _ _

theorem sched_run_eof (sizes : List Nat) (r : DR) (inp : Bytes) (x : Bytes × Res)
    (hx : x ∈ (readSched r inp sizes).1) (hxe : x.2 = .eof) :
    run r.state inp = (.eof, outs (readSched r inp sizes).1, (readSched r inp sizes).2.2) := by
  fun_induction readSched r inp sizes with
  | case1 r inp => simp at hx
  | case2 r inp k ks r' out rest l rf inpf hrec hread ih =>
    have F := read_spec r inp k
    rw [hread] at F
    rcases List.mem_cons.mp hx with rfl | hx
    · cases hxe
    · have := F.run
      rwa [RunD, ih (by rw [hrec]; exact hx), hrec] at this
  | case3 r inp k ks r' out rest res hread hres =>
    have F := read_spec r inp k
    rw [hread] at F
    obtain rfl := List.mem_singleton.mp hx
    have := F.run
    dsimp only at this hxe
    rw [F.eof hxe] at this
    simpa using this.eof

theorem sched_indep (r : DR) (inp : Bytes) (sz1 sz2 : List Nat) (x1 x2 : Bytes × Res)
    (h1 : x1 ∈ (readSched r inp sz1).1) (e1 : x1.2 = .eof) (h2 : x2 ∈ (readSched r inp sz2).1) (e2 : x2.2 = .eof) :
    outs (readSched r inp sz1).1 = outs (readSched r inp sz2).1 ∧ (readSched r inp sz1).2.2 = (readSched r inp sz2).2.2 :=
  Prod.mk.inj (Prod.mk.inj ((sched_run_eof sz1 r inp x1 h1 e1).symm.trans (sched_run_eof sz2 r inp x2 h2 e2))).2

theorem sched_eof_terminated (sizes : List Nat) (r : DR) (inp : Bytes) (hr : r.state = .bol)
    (x : Bytes × Res) (hx : x ∈ (readSched r inp sizes).1) (hxe : x.2 = .eof) :
    Terminated inp (outs (readSched r inp sizes).1) (readSched r inp sizes).2.2 :=
  run_eof_terminated inp _ _ (hr ▸ sched_run_eof sizes r inp x hx hxe)

/-- the four conjuncts are the four clauses of `DataMon.check` for a message that fits the limit (`sched_over`: the two for
    one that does not) -/
theorem sched_fit (sizes : List Nat) (r : DR) (inp o rest0 : Bytes)
    (hE : run r.state inp = (.eof, o, rest0)) (hB : Boundary r.state)
    (hfit : r.limited = true → o.length ≤ r.n) :
    outs (readSched r inp sizes).1 <+: o ∧
    (∀ x ∈ (readSched r inp sizes).1, x.2 = .more ∨ x.2 = .eof) ∧
    (∀ x, (readSched r inp sizes).1.getLast? = some x → x.2 = .eof →
        outs (readSched r inp sizes).1 = o ∧ (readSched r inp sizes).2.2 = rest0) ∧
    ((∀ k ∈ sizes, 0 < k) → o.length < sizes.length →
        ∃ x, (readSched r inp sizes).1.getLast? = some x ∧ x.2 = .eof) := by
  fun_induction readSched r inp sizes generalizing o with
  | case1 r inp => exact ⟨List.nil_prefix, List.forall_mem_nil _, (fun _ h => nomatch h), fun _ h => absurd h (Nat.not_lt_zero _)⟩
  | case2 r inp k ks r' out rest l rf inpf hrec hread ih =>
    obtain ⟨o1, ho1, hrun1, hlim1, hfit1, hcase⟩ := hread ▸ read_ok r inp k o rest0 hE hB hfit
    have hpos := hread ▸ read_more_pos r inp k
    subst ho1
    have hb1 : Boundary r'.state := hcase.elim (·.2.1) (fun h => nomatch h.1)
    obtain ⟨hpre, hall, hlast, hprog⟩ := ih o1 hrun1 hb1 hfit1
    rw [hrec] at hpre hall hlast hprog
    refine ⟨by simpa [List.prefix_append_right_inj] using hpre, List.forall_mem_cons.mpr ⟨.inl rfl, hall⟩, fun x hx he => ?_, fun hp hlt => ?_⟩
    · have hx' : l.getLast? = some x := by
        cases l with
        | nil => cases hx; cases he
        | cons y l => exact List.getLast?_cons_cons ▸ hx
      obtain ⟨h1, h2⟩ := hlast x hx' he
      exact ⟨by simp [h1], h2⟩
    · obtain ⟨x, hx, he⟩ := hprog (fun j hj => hp j (List.mem_cons_of_mem _ hj))
        (lt_of_pos_add (hpos (hp k List.mem_cons_self) rfl) List.length_append.symm hlt)
      exact ⟨x, by simp only [List.getLast?_cons, hx]; rfl, he⟩
  | case3 r inp k ks r' out rest res hread hres =>
    obtain ⟨o1, ho1, hrun1, hlim1, hfit1, hcase⟩ := hread ▸ read_ok r inp k o rest0 hE hB hfit
    obtain ⟨h, -⟩ | ⟨h, rfl, rfl⟩ := hcase
    · exact absurd h (hres · )
    dsimp only at h ho1; subst h ho1
    exact ⟨List.prefix_refl _, List.forall_mem_singleton.mpr (.inr rfl), fun _ _ _ => ⟨rfl, rfl⟩, fun _ _ => ⟨_, rfl, rfl⟩⟩

theorem sched_over (sizes : List Nat) (r : DR) (inp o rest0 : Bytes)
    (hE : run r.state inp = (.eof, o, rest0)) (hB : Boundary r.state)
    (hl : r.limited = true) (hover : r.n < o.length) :
    (∀ x ∈ (readSched r inp sizes).1, x.2 = .more ∨ x.2 = .tooLarge) ∧
    ((∀ k ∈ sizes, 0 < k) → r.n < sizes.length →
        ∃ x, (readSched r inp sizes).1.getLast? = some x ∧ x.2 = .tooLarge) := by
  fun_induction readSched r inp sizes generalizing o with
  | case1 r inp => exact ⟨List.forall_mem_nil _, fun _ h => absurd h (Nat.not_lt_zero _)⟩
  | case2 r inp k ks r' out rest l rf inpf hrec hread ih =>
    have hov := hread ▸ read_over r inp k o rest0 hE hB hl hover
    have hpos := hread ▸ read_more_pos r inp k
    have hbud := hread ▸ read_budget r inp k hl
    obtain h | ⟨-, o', hrun, hb, hl', hover'⟩ := hov
    · cases h
    obtain ⟨hall, hprog⟩ := ih o' hrun hb hl' hover'
    rw [hrec] at hall hprog
    refine ⟨List.forall_mem_cons.mpr ⟨.inl rfl, hall⟩, fun hp hlt => ?_⟩
    obtain ⟨x, hx, he⟩ := hprog (fun j hj => hp j (List.mem_cons_of_mem _ hj))
      (lt_of_pos_add (hpos (hp k List.mem_cons_self) rfl) hbud.2 hlt)
    exact ⟨x, by simp only [List.getLast?_cons, hx]; rfl, he⟩
  | case3 r inp k ks r' out rest res hread hres =>
    have hov := hread ▸ read_over r inp k o rest0 hE hB hl hover
    obtain h | ⟨h, -⟩ := hov
    · dsimp only at h; subst h
      exact ⟨List.forall_mem_singleton.mpr (.inr rfl), fun _ _ => ⟨_, rfl, rfl⟩⟩
    · exact absurd h (hres ·)

end SmtpV.DataReader
