import SmtpV.Proofs.Framing
/-!
Whole connections, once.  A relation `R` between server states that is reflexive and transitive and holds across every `Quiet`
step and the five operations outside that frame (the fields of `Closed`) holds across every handler, the command loop and the
whole connection.  Invariants are the case `R s s' := I s → I s'`.
-/
namespace SmtpV.Server
open SmtpV SmtpV.Spec SmtpV.Wire SmtpV.Reply

theorem copyChunk_fields (fuel : Nat) (s : S) (k n cap : Nat) (hl : s.w.limit = 0) :
    (copyChunk fuel s k n cap).1.cfg = s.cfg ∧ (copyChunk fuel s k n cap).1.c = s.c :=
  copyChunk_rel (R := fun _ s s' => s'.cfg = s.cfg ∧ s'.c = s.c) (fun _ => ⟨rfl, rfl⟩)
    (fun h1 h2 => ⟨h2.1.trans h1.1, h2.2.trans h1.2⟩) (fun _ h => h) (fun _ _ => ⟨rfl, rfl⟩) k
    (fun s bs => let ⟨h1, h2, _⟩ := delivWrite_fields s k bs; ⟨h1, h2⟩) fuel s n cap hl

structure Closed (R : S → S → Prop) : Prop where
  refl : ∀ s, R s s
  trans : ∀ {a b c}, R a b → R b c → R a c
  quiet : ∀ {s s'}, Quiet s s' → R s s'
  readLine : ∀ s, R s (connReadLine s).1
  switchWire : ∀ s, R s (switchWire s)
  discard : ∀ s n, R s (discardChunkN s n)
  data : ∀ s id, s.c.bdat = none → R s (dataSync s id).1
  chunk : ∀ s size last, ¬ (s.cfg.maxMsg ≠ 0 ∧ s.c.bytesReceived + size > s.cfg.maxMsg) → R s (bdatChunk s size last).1

namespace Closed
variable {R : S → S → Prop} (h : Closed R)
include h

theorem readLine' {s s1 : S} {r : Except RErr Bytes} (heq : connReadLine s = (s1, r)) : R s s1 := by
  have := h.readLine s
  rwa [heq] at this

theorem saslLoop : ∀ (fuel : Nat) (s : S) (resp : Option Bytes), R s (saslLoop fuel s resp).1 := by
  intro fuel
  induction fuel with
  | zero => intro s _; exact h.refl _
  | succ fuel ih =>
    intro s resp
    obtain ⟨st, s2, p, he, _, hs2, hc⟩ := saslLoop_cases fuel s resp
    rw [he]
    have h1 : R s s2 := hs2 ▸ h.quiet ((popSasl_popped s).quiet.trans (quiet_emit _ _))
    rcases hc with ⟨_, rfl⟩ | ⟨_, _, _, rfl⟩ | ⟨_, _, rfl⟩ | ⟨_, _, _, s4, _, hq, hc⟩
    · exact h1
    · exact h.trans h1 (h.quiet (Quiet.trans .of_eq (quiet_write _ _)))
    · exact h.trans h1 (h.quiet (quiet_write _ _))
    · have h2 := h.trans (h.trans h1 (h.quiet (quiet_write _ _))) (h.readLine' hq)
      rcases hc with rfl | ⟨_, rfl⟩ | ⟨_, rfl⟩
      · exact h2
      · exact h.trans h2 (h.quiet (quiet_write _ _))
      · exact h.trans h2 (ih _ _)

theorem handleAuth (s : S) (arg : Bytes) : R s (handleAuth s arg).1 := by
  rcases handleAuth_cases s arg with ⟨_, he⟩ | ⟨_, _, he⟩ | ⟨id, mech, ir, _, _, _, _, _, he⟩ <;> rw [he]
  · exact h.quiet (quiet_write _ _)
  · exact h.refl _
  · unfold authCall
    dsimp only
    have h1 := fun e => h.quiet ((popAuth_popped s).quiet.trans (quiet_emit _ e))
    split
    · exact h.trans (h1 _) (h.saslLoop _ _ _)
    · exact h1 _
    · exact h.trans (h1 _) (h.quiet (quiet_write _ _))

theorem handleStartTLS (s : S) : R s (handleStartTLS s) := by
  by_cases hr : s.c.tls = true ∨ s.cfg.tlsAvail = false
  · obtain ⟨_, he⟩ := handleStartTLS_refused s hr
    rw [he]; exact h.quiet (quiet_write _ _)
  · obtain ⟨s1, hw, he⟩ := handleStartTLS_accepted s (eq_false_of_ne_true fun ht => hr (.inl ht)) (eq_true_of_ne_false fun ha => hr (.inr ha))
    rw [he]
    have h1 := fun e => h.quiet (hw.quiet.trans ((popHs_popped _).quiet.trans (quiet_emit _ e)))
    split
    · exact h.trans (h1 _) (h.trans (h.switchWire _) (h.quiet (quiet_tlsUpgrade _)))
    · exact h.trans (h1 _) (h.quiet (quiet_write _ _))

theorem handleData (s : S) (arg : Bytes) : R s (handleData s arg).1 := by
  cases ha : dataAccepted s arg
  · obtain ⟨_, _, _, he⟩ := handleData_refused s arg ha
    rw [he]; exact h.quiet (quiet_write _ _)
  · obtain ⟨s1, hw, he⟩ := handleData_accepted s arg ha
    rw [he]
    have h1 := hw.quiet
    have hb := ((dataAccepted_iff s arg).1 ha).2.1
    split
    · exact h.quiet (h1.trans (quiet_resetConn _))
    · exact h.trans (h.quiet h1) (h.data _ _ (h1.bdat_none hb))

theorem handleBdat (s : S) (arg : Bytes) : R s (handleBdat s arg).1 := by
  rcases handleBdat_cases s arg with ⟨_, _, _, _, he⟩ | ⟨_, he⟩ | ⟨_, _, _, _, hlim, he⟩ <;> rw [he]
  · refine h.trans (h.quiet ?_) (h.discard _ _)
    exact quiet_write _ _
  · refine h.trans (h.trans (h.quiet ?_) (h.discard _ _)) (h.quiet (quiet_resetConn _))
    exact quiet_write _ _
  · exact h.chunk _ _ _ hlim

theorem dispatch (s : S) (cmd arg : Bytes) : R s (dispatch s cmd arg) := by
  have hr : ∀ p : S × Bool, R s p.1 → R s (recoverPanic p) := fun p hp => h.trans hp (h.quiet (quiet_recoverPanic p))
  unfold Server.dispatch
  cases verbOf cmd
  case unimpl => exact h.quiet (quiet_write _ _)
  case greet =>
    dsimp only
    rcases dispatchGreet_cases s cmd arg with ⟨_, he⟩ | ⟨_, he⟩ <;> rw [he]
    · exact h.quiet (quiet_write _ _)
    · exact hr _ (h.quiet (quiet_handleGreet _ _ _))
  case mail => exact hr _ (h.quiet (quiet_handleMail _ _))
  case rcpt => exact hr _ (h.quiet (quiet_handleRcpt _ _))
  case vrfy => exact h.quiet (quiet_write _ _)
  case noop => exact h.quiet (quiet_write _ _)
  case rset => exact h.quiet ((quiet_resetConn _).trans (quiet_write _ _))
  case bdat => exact hr _ (h.handleBdat _ _)
  case data => exact hr _ (h.handleData _ _)
  case quit => exact h.quiet ((quiet_write _ _).trans (quiet_closeConn _))
  case auth => exact hr _ (h.handleAuth _ _)
  case starttls => exact h.handleStartTLS _
  case unknown => exact h.quiet (quiet_protocolErrorB _ _ _ _)

theorem handle (s : S) (cmd arg : Bytes) : R s (handle s cmd arg) := by
  unfold Server.handle
  split
  · exact h.quiet (quiet_protocolError _ _ _ _)
  · exact h.dispatch _ _ _

theorem loop : ∀ (fuel : Nat) (s : S), R s (loop fuel s) := by
  intro fuel
  induction fuel with
  | zero => intro s; exact h.refl _
  | succ fuel ih =>
    intro s
    unfold Server.loop
    split
    · exact h.refl _
    · generalize hq : connReadLine s = q
      obtain ⟨s1, r⟩ := q
      have h1 := h.readLine' hq
      cases r with
      | ok line =>
        dsimp only
        have h2 := h.trans h1 (h.quiet (quiet_emit _ (.cmd line)))
        split
        · exact h.trans h2 (h.trans (h.quiet (quiet_protocolError _ _ _ _)) (ih _))
        · exact h.trans h2 (h.trans (h.handle _ _ _) (ih _))
      | error e =>
        cases e with
        | eof | closed => exact h1
        | tooLong | timeout => exact h.trans h1 (h.quiet (quiet_write _ _))

theorem serve (s : S) : R s (serve s) := by
  unfold Server.serve greet
  exact h.trans (h.quiet (quiet_write _ _)) (h.trans (h.loop _ _) (h.quiet (quiet_closeConn _)))

end Closed

theorem bdatAfterCopy_cfg (s : S) (k size left : Nat) (last : Bool) (ce : CopyEnd) :
    (bdatAfterCopy s k size left last ce).1.cfg = s.cfg := by
  rcases bdatAfterCopy_cases s k size left last ce with ⟨err, h⟩ | ⟨_, _, h⟩ | ⟨_, _, h⟩ <;> rw [h]
  · obtain ⟨s', he, hq, _⟩ := bdatFail_shape s k left last err
    rw [he]; exact hq.cfg
  · exact (quiet_write _ _).cfg
  · exact (calm_bdatFinal _ _).cfg

theorem cfg_closed : Closed fun s s' => s'.cfg = s.cfg where
  refl _ := rfl
  trans h1 h2 := h2.trans h1
  quiet h := h.cfg
  readLine _ := by unfold connReadLine; rfl
  switchWire _ := rfl
  discard s n := let ⟨_, h⟩ := discardChunkN_eq s n; h ▸ rfl
  data s id _ := (dataSync_shape s id).cfg.trans (dataStart_fields s id).1
  chunk s size last _ := by
    unfold bdatChunk
    dsimp only
    exact (bdatAfterCopy_cfg _ _ _ _ _ _).trans ((copyChunk_fields _ (setLimit _ 0) _ _ _ rfl).1.trans
      ((setLimit_cfg _ 0).trans ((bdatBegin_frame _).cfg.trans (quiet_setBdatStatus s).cfg)))

end SmtpV.Server
