import SmtpV.Basic
/-!
Instance search for `LawfulBEq` and `ReflBEq` on octets and octet strings goes through the order-based candidates of `Std` first
and fails there, which is slow, in every `simp` call that turns `==` into `=`.  Found once, here.
-/
namespace SmtpV
instance : LawfulBEq Byte := inferInstance
instance : ReflBEq Byte := inferInstance
instance : LawfulBEq Bytes := inferInstance
end SmtpV
