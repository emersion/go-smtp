import SmtpV.Proofs.ServerWalk
import SmtpV.Proofs.DataWire
/-!
C06 on whole connections: with a message size limit `N` configured, no delivery, finished, failed or abandoned, is ever handed
more than `N` octets.  Every `Calm` step keeps `Acct`; the DATA delivery keeps it because the reader's budget is the limit
(`backendRead_budget`); an accepted chunk keeps it because the copy hands the running delivery at most the declared size
(`cs_copyChunk`), which `handleBdat` has checked against the limit.
-/
namespace SmtpV.Server
open SmtpV SmtpV.Wire SmtpV.DataReader SmtpV.Spec

/-- the accounting invariant: with a limit configured every delivery holds at most that many octets and so does the
    running total of accepted chunk sizes; and the delivery of the running chunked transfer has been handed at most
    that total -/
structure Acct (s : S) : Prop where
  all : s.cfg.maxMsg > 0 → ∀ j, octLen s j ≤ s.cfg.maxMsg
  recv : s.cfg.maxMsg > 0 → s.c.bytesReceived ≤ s.cfg.maxMsg
  run : ∀ k, s.c.bdat = some k → octLen s k ≤ s.c.bytesReceived

structure Pre (s : S) : Prop where
  all : s.cfg.maxMsg > 0 → ∀ j, octLen s j ≤ s.cfg.maxMsg
  recv : s.cfg.maxMsg > 0 → s.c.bytesReceived ≤ s.cfg.maxMsg

theorem Acct.pre {s : S} (h : Acct s) : Pre s := ⟨h.all, h.recv⟩
theorem Pre.acct {s : S} (h : Pre s) (hb : s.c.bdat = none) : Acct s :=
  ⟨h.all, h.recv, fun k hk => by rw [hb] at hk; cases hk⟩

theorem Pre.of_calm {s s' : S} (h : Pre s) (hs : Calm s s') : Pre s' := by
  refine ⟨fun hm j => ?_, fun hm => ?_⟩ <;> rw [hs.cfg] at hm ⊢
  · exact Nat.le_trans (hs.grow j) (h.all hm j)
  · rcases hs.recv with e | e <;> rw [e]
    · exact h.recv hm
    · exact Nat.zero_le _

theorem Acct.of_calm {s s' : S} (h : Acct s) (hs : Calm s s') : Acct s' := by
  refine ⟨(h.pre.of_calm hs).all, (h.pre.of_calm hs).recv, fun k hk => ?_⟩
  rcases hs.bdat with e | ⟨e1, e2⟩
  · rw [e] at hk; cases hk
  · rw [e1] at hk; rw [e2]
    exact Nat.le_trans (hs.grow k) (h.run k hk)

theorem Acct.of_eq {s s' : S} (h : Acct s) (h1 : s'.cfg = s.cfg := by rfl)
    (h2 : s'.c.bytesReceived = s.c.bytesReceived := by rfl) (h3 : s'.c.bdat = s.c.bdat := by rfl)
    (h4 : s'.drecs = s.drecs := by rfl) : Acct s' := by
  refine ⟨?_, ?_, ?_⟩ <;> simp only [octLen, h1, h2, h3, h4]
  · exact h.all
  · exact h.recv
  · exact h.run

theorem acct_setOctets (s : S) (k : Nat) (f : DRec → DRec) (h : Pre s) (hb : s.c.bdat = none)
    (hf : s.cfg.maxMsg > 0 → ∀ d, (f d).octets.length ≤ s.cfg.maxMsg) : Acct (setDrec s k f) := by
  refine Pre.acct ⟨fun hm j => ?_, h.recv⟩ hb
  simp only [octLen, setDrec_get]
  split
  · cases hs : s.drecs[j]? with
    | none => exact Nat.zero_le _
    | some d => exact hf hm d
  · exact h.all hm j

theorem acct_dataSync (s : S) (id : Nat) (h : Acct s) (hb : s.c.bdat = none) : Acct (dataSync s id).1 := by
  obtain ⟨hcfg, hc, _, _, hd⟩ := dataStart_fields s id
  obtain ⟨ret, hend⟩ := dataSync_shape s id
  generalize dataStart s id = s1 at hcfg hc hd hend
  have h3 : Pre s1 := by
    obtain ⟨f1, _, _⟩ := drecs_append_fresh hd rfl (fun h => by cases h)
    refine ⟨fun hm j => ?_, fun hm => ?_⟩ <;> rw [hcfg] at hm ⊢
    · exact Nat.le_trans (f1 j) (h.all hm j)
    · rw [hc]; exact h.recv hm
  have hbud : s.cfg.maxMsg > 0 →
      (backendRead (wireFuel s.w) (newDataReader s) s.w (popData s).1.want (popData s).1.rsz []).2.2.1.length ≤ s.cfg.maxMsg := fun hm => by
    have hr : newDataReader s = { limited := true, n := s.cfg.maxMsg } := if_pos hm
    exact Nat.le_trans (backendRead_budget _ _ _ _ _ [] (by rw [hr])) (Nat.le_of_eq (by rw [hr]; exact Nat.zero_add _))
  unfold dataReads at hend
  generalize backendRead (wireFuel s.w) (newDataReader s) s.w (popData s).1.want (popData s).1.rsz [] = br at hend hbud
  obtain ⟨r1, w1, octets, e⟩ := br
  have h5 := acct_setOctets s1 s.drecs.length (endRec octets e ret) h3 (by rw [hc]; exact hb)
    (fun hm _ => by rw [hcfg] at hm ⊢; exact hbud hm)
  rcases hend with ⟨hq, _⟩ | hq
  · exact (h5.of_eq (s' := setDrec (setW _ _) _ _)).of_calm hq.toCalm
  · exact (h5.of_eq (s' := setW _ _)).of_calm hq.toCalm

/-- a step of the chunk copy: only delivery `k` is handed anything, at most `m` octets; the accounting fields stand -/
structure CS (k m : Nat) (s s' : S) : Prop where
  cfg : s'.cfg = s.cfg
  br : s'.c.bytesReceived = s.c.bytesReceived
  bd : s'.c.bdat = s.c.bdat
  other : ∀ j, j ≠ k → octLen s' j ≤ octLen s j
  here : octLen s' k ≤ octLen s k + m

theorem CS.rfl' (k : Nat) (s : S) : CS k 0 s s := ⟨rfl, rfl, rfl, fun _ _ => Nat.le_refl _, Nat.le_refl _⟩
theorem CS.trans {k m1 m2 : Nat} {a b c : S} (h1 : CS k m1 a b) (h2 : CS k m2 b c) : CS k (m1 + m2) a c :=
  ⟨h2.cfg.trans h1.cfg, h2.br.trans h1.br, h2.bd.trans h1.bd,
   fun j hj => Nat.le_trans (h2.other j hj) (h1.other j hj),
   Nat.add_assoc _ m1 m2 ▸ Nat.le_trans h2.here (Nat.add_le_add_right h1.here m2)⟩
theorem CS.mono {k m m' : Nat} {a b : S} (h : CS k m a b) (hm : m ≤ m') : CS k m' a b :=
  ⟨h.cfg, h.br, h.bd, h.other, Nat.le_trans h.here (Nat.add_le_add_left hm _)⟩

theorem cs_delivWrite (s : S) (k : Nat) (bs : Bytes) : CS k bs.length s (delivWrite s k bs).1 := by
  obtain ⟨h1, h2, _, _⟩ := delivWrite_fields s k bs
  refine ⟨h1, by rw [h2], by rw [h2], fun j hj => ?_, (delivWrite_recs s k bs).1 k⟩
  have h3 : ∀ f, octLen (setDrec s k f) j ≤ octLen s j := fun f => by
    simp only [octLen, setDrec_get, hj, if_false, Nat.le_refl]
  rcases delivWrite_cases s k bs with he | he | he <;> rw [he]
  · exact Nat.le_refl _
  · exact h3 _
  · exact Nat.le_trans ((calm_delivFinish _ k .none).grow j) (h3 _)

theorem cs_copyChunk : ∀ (fuel : Nat) (s : S) (k n cap : Nat), s.w.limit = 0 → CS k n s (copyChunk fuel s k n cap).1 :=
  fun fuel s k n cap hl => copyChunk_rel (R := fun m s s' => CS k m s s') (CS.rfl' k) CS.trans (fun h g => g.mono h)
    (fun _ _ => ⟨rfl, rfl, rfl, fun _ _ => Nat.le_refl _, Nat.le_refl _⟩) k (fun s bs => cs_delivWrite s k bs) fuel s n cap hl

/-- a failed chunk ends the transfer: the accounting starts afresh -/
theorem acct_bdatFail (s : S) (k left : Nat) (last : Bool) (err : BRes) (h : Pre s) : Acct (bdatFail s k left last err).1 := by
  obtain ⟨s', he, hq, hb⟩ := bdatFail_shape s k left last err
  rw [he]
  exact (((show Pre (setW s (discardN (wireFuel s.w) s.w left)) from ⟨h.all, h.recv⟩).of_calm hq.toCalm).acct hb).of_eq

/-- a transfer that was running keeps its count; a new delivery has been handed nothing -/
theorem Begun.acct {s : S} {p : S × Nat} (b : Begun s p) (h : Acct s) : Acct p.1 := by
  refine ⟨fun hm j => ?_, fun hm => ?_, fun k' hk' => ?_⟩
  · rw [b.cfg] at hm ⊢; exact Nat.le_trans (b.grow j) (h.all hm j)
  · rw [b.cfg] at hm ⊢; rw [b.c]; exact h.recv hm
  · rw [b.c] at hk' ⊢
    cases hk'
    show octLen p.1 p.2 ≤ s.c.bytesReceived
    rcases b.fresh with hb | h0
    · exact Nat.le_trans (b.grow p.2) (h.run _ hb)
    · exact h0 ▸ Nat.zero_le _

/-- the running delivery has been handed at most `size` more octets than the total accepted so far, which with `size` is within
    the limit: what `handleBdat` has checked -/
theorem acct_copied {s s3 : S} {k size : Nat} (h : Acct s) (hbd : s.c.bdat = some k) (c : CS k size s s3)
    (hsz : s.cfg.maxMsg > 0 → s.c.bytesReceived + size ≤ s.cfg.maxMsg) (left : Nat) (last : Bool) (ce : CopyEnd) :
    Acct (bdatAfterCopy s3 k size left last ce).1 := by
  have hk := h.run k hbd
  have hcfg := c.cfg
  have hbr := c.br
  have hp : Pre s3 := by
    refine ⟨fun hm j => ?_, fun hm => ?_⟩ <;> rw [hcfg] at hm ⊢
    · by_cases hj : j = k
      · exact hj ▸ Nat.le_trans c.here (Nat.le_trans (Nat.add_le_add_right hk _) (hsz hm))
      · exact Nat.le_trans (c.other j hj) (h.all hm j)
    · rw [hbr]; exact h.recv hm
  have h1 : Acct (armLimit (addBytesReceived s3 size)) :=
    ⟨hp.all, fun (hm : s3.cfg.maxMsg > 0) => by
        show s3.c.bytesReceived + size ≤ s3.cfg.maxMsg
        rw [hcfg] at hm ⊢; rw [hbr]; exact hsz hm,
      fun k' hk' => by
        cases (c.bd.trans hbd).symm.trans hk'
        show octLen s3 k ≤ s3.c.bytesReceived + size
        rw [hbr]; exact Nat.le_trans c.here (Nat.add_le_add_right hk _)⟩
  rcases bdatAfterCopy_cases s3 k size left last ce with ⟨err, he⟩ | ⟨_, _, he⟩ | ⟨_, _, he⟩ <;> rw [he]
  · exact acct_bdatFail _ _ _ _ _ hp
  · exact h1.of_calm (quiet_write _ _).toCalm
  · exact h1.of_calm (calm_bdatFinal _ _)

theorem acct_bdatChunk (s : S) (size : Nat) (last : Bool) (h : Acct s)
    (hsz : s.cfg.maxMsg > 0 → s.c.bytesReceived + size ≤ s.cfg.maxMsg) : Acct (bdatChunk s size last).1 := by
  unfold bdatChunk
  dsimp only
  have b := bdatBegin_frame (setBdatStatus s)
  have hr0 : (setBdatStatus s).c.bytesReceived = s.c.bytesReceived := let ⟨_, h⟩ := setBdatStatus_eq s; h ▸ rfl
  generalize bdatBegin (setBdatStatus s) = p at b ⊢
  refine acct_copied (s := setLimit p.1 0)
    (b.acct (h.of_calm (quiet_setBdatStatus s).toCalm)).of_eq (by rw [setLimit_c, b.c]) (cs_copyChunk _ _ _ _ _ rfl) ?_ _ _ _
  rw [setLimit_cfg, b.cfg, (quiet_setBdatStatus s).cfg, setLimit_c, b.c, hr0]
  exact hsz

theorem acct_closed : Closed fun s s' => Acct s → Acct s' where
  refl _ h := h
  trans h1 h2 h := h2 (h1 h)
  quiet hq h := h.of_calm hq.toCalm
  readLine s h := by unfold connReadLine; exact h.of_eq
  switchWire s h := h.of_eq
  discard s n h := let ⟨_, e⟩ := discardChunkN_eq s n; e ▸ h.of_eq
  data s id hb h := acct_dataSync s id h hb
  chunk s size last hlim h := acct_bdatChunk s size last h fun hm => Nat.le_of_not_gt fun hgt => hlim ⟨Nat.ne_of_gt hm, hgt⟩

theorem acct_serve (s : S) (h : Acct s) : Acct (serve s) := acct_closed.serve s h

end SmtpV.Server
