import SmtpV.Proofs.CallRun
/-!
The client half of C10: once nothing can reach the raw socket any more (`NoMorePlain`), no call changes that.
-/
namespace SmtpV.Client

/-- from here on nothing can reach the raw socket any more: a TLS handshake is pending (it runs before the next write),
    a TLS session is established, or the connection is closed -/
def NoMorePlain (c : C) : Prop := c.tlsPending = true ∨ c.tlsState = "ok" ∨ c.connClosed = true

theorem handshake_noMorePlain (c : C) (h : NoMorePlain c) :
    (c.handshake.tlsState = "ok" ∨ c.handshake.connClosed = true) ∧ c.handshake.plainLog = c.plainLog := by
  rcases handshake_cases c with ⟨hp, e⟩ | ⟨_, e⟩ | e <;> rw [e]
  · exact ⟨h.resolve_left (by rw [hp]; exact Bool.false_ne_true), rfl⟩
  · exact ⟨.inl rfl, rfl⟩
  · exact ⟨.inr rfl, rfl⟩

theorem initStartTLS_ok (c : C) (h : (c.initStartTLS).2 = none) : NoMorePlain (c.initStartTLS).1 := by
  rw [initStartTLS_eq] at h ⊢
  obtain ⟨c1, _, e | ⟨_, e⟩⟩ := upgradeCmd.run_spec (L := fun _ => True) c Prod.mk (fun _ _ => trivial) fun _ _ _ _ => trivial
  · rw [e]; exact Or.inl rfl
  · rw [e] at h; cases h

def Sealed (p : Bytes) (c : C) : Prop := c.plainLog = p ∧ NoMorePlain c

theorem Sealed.upd {p : Bytes} {c c' : C} (h : Sealed p c) (h1 : c'.plainLog = c.plainLog) (h2 : c'.tlsPending = c.tlsPending)
    (h3 : c'.tlsState = c.tlsState) (h4 : c.connClosed = true → c'.connClosed = true) : Sealed p c' := by
  refine ⟨h1.trans h.1, ?_⟩
  have h := h.2
  unfold NoMorePlain at *
  rw [h2, h3]
  exact h.imp id (Or.imp id h4)

theorem Sealed.calm {p : Bytes} {c c' : C} (h : Sealed p c) (q : Calm c c') : Sealed p c' :=
  h.upd q.plainLog q.tlsPending q.tlsState q.closed

/-- **every write after the upgrade goes inside TLS or nowhere** -/
theorem Sealed.send {p : Bytes} {c : C} (h : Sealed p c) (bs : Bytes) : Sealed p (c.send bs).1 := by
  obtain ⟨h1, h2⟩ := handshake_noMorePlain c h.2
  generalize hs : c.handshake = c1 at h1 h2
  rcases send_cases hs bs with e | ⟨hc, e⟩ <;> rw [e]
  · exact ⟨h2.trans h.1, Or.inr h1⟩
  · have h1 := h1.resolve_right (by rw [hc]; exact Bool.false_ne_true)
    exact ⟨((if_pos (beq_iff_eq.mpr h1)).trans h2).trans h.1, Or.inr (Or.inl h1)⟩

theorem Sealed.read {p : Bytes} {c : C} (h : Sealed p c) (n : Nat) : Sealed p (c.read n).1 := h.calm (read_quiet c n).toCalm

theorem Sealed.cmd {p : Bytes} {c : C} (h : Sealed p c) (n : Nat) (l : Bytes) : Sealed p (c.cmd n l).1 := by
  have h1 : Sealed p c.closeDot.1 := by
    rcases closeDot_cases c with e | ⟨_, e⟩ <;> rw [e]
    · exact h
    · exact h.upd rfl rfl rfl id
  have h2 := h1.send (c.closeDot.2 ++ l ++ crlf)
  rcases cmd_cases rfl n l with e | e <;> rw [e]
  · exact h2
  · exact h2.read n

theorem Run.sealed {L} {p : Bytes} {c c' : C} {n : Nat} (h : Run Calm L c n c') (hc : Sealed p c) : Sealed p c' := by
  induction h with
  | nil => exact hc
  | quiet _ q ih => exact ih.calm q
  | cmd k _ _ ih => exact ih.cmd k _

theorem lmtpReplies_sealed {p : Bytes} (rs : List Bytes) : ∀ (c : C) (cb : Bool) (first : Option CErr) (cbs : List String),
    Sealed p c → Sealed p (lmtpReplies rs c cb first cbs).1 := by
  induction rs with
  | nil => intro c cb first cbs h; exact h
  | cons r rest ih =>
    intro c cb first cbs h
    unfold lmtpReplies
    have h1 := h.read 250
    generalize c.read 250 = q at h1 ⊢
    obtain ⟨c1, r1⟩ := q
    cases r1 with
    | ok code msg => exact ih c1 _ _ _ h1
    | smtpErr e => cases cb <;> exact ih c1 _ _ _ h1
    | proto => exact h1
    | io => exact h1

theorem call_sealed {p : Bytes} (c0 : C) (call : Call) (h : Sealed p c0) : Sealed p (c0.call call).1 := by
  have hc : Sealed p { c0 with out := c0.carry, carry := [] } := h.upd rfl rfl rfl id
  clear h
  -- the calls that write message octets or read the replies to them are walked here; every other is a run (`call_run`), or
  -- a run and DATA's bookkeeping, and runs keep `Sealed`
  cases call with
  | data | lmtpData =>
    rw [call_oneCmd rfl]
    obtain ⟨c1, hr, e | ⟨_, e⟩⟩ := OneCmd.run_spec (L := fun _ => True) _ { c0 with out := c0.carry, carry := [] } report (fun _ _ => trivial)
      fun _ _ _ _ => trivial
    all_goals rw [e]
    · exact ((hr.calm fun _ => id).sealed hc).upd rfl rfl rfl id
    · exact (hr.calm fun _ => id).sealed hc
  | write bs =>
    unfold C.call
    generalize ({ c0 with out := c0.carry, carry := [] } : C) = c at hc ⊢
    simp only []
    split
    · exact hc
    · exact ((hc.upd (c' := { c with wbuf := [] }) rfl rfl rfl id).send _).upd rfl rfl rfl id
  | close k =>
    unfold C.call
    generalize ({ c0 with out := c0.carry, carry := [] } : C) = c at hc ⊢
    simp only []
    split
    · exact hc
    · rename_i d _
      by_cases hd : d.closed = true
      · rw [if_pos hd]; exact hc
      · rw [if_neg hd]
        generalize e1 : (if c.dot == some _ then { c with dot := none } else c) = c1
        have h1 : Sealed p c1 := by
          rw [← e1]
          split
          · exact hc.upd rfl rfl rfl id
          · exact hc
        have h2 := h1.send (DotWriter.wclose d.st)
        generalize c1.send (DotWriter.wclose d.st) = q at h2 ⊢
        obtain ⟨c2, b⟩ := q
        cases b with
        | false => exact h2
        | true =>
          simp only []
          have h3 : Sealed p { c2 with dws := c2.dws.set (k.getD (c.dws.length - 1)) { d with closed := true } } :=
            h2.upd rfl rfl rfl id
          split
          · exact lmtpReplies_sealed _ _ _ _ _ h3
          · exact h3.read 250
  | _ => exact (call_run c0 _ _ rfl).1.sealed hc

theorem calls_sealed {p : Bytes} (cs : List Call) : ∀ (c : C), Sealed p c → Sealed p (cs.foldl (fun c k => (c.call k).1) c) := by
  induction cs with
  | nil => intro c h; exact h
  | cons k rest ih => intro c h; exact ih _ (call_sealed c k h)

theorem runUntilErr_sealed {p : Bytes} (cs : List Call) : ∀ (c : C), Sealed p c → Sealed p (runUntilErr c cs).1 := by
  induction cs with
  | nil => intro c h; exact h
  | cons k rest ih =>
    intro c h
    unfold runUntilErr
    have h1 := call_sealed c k h
    generalize c.call k = q at h1 ⊢
    obtain ⟨c1, r⟩ := q
    simp only []
    split
    · exact ih c1 h1
    · exact h1

/-- `SendMail` after `initStartTLS` (AUTH, the transaction, QUIT) writes nothing more on the raw socket -/
theorem sendMail_plain (c : C) (auth : Bool) (frm : Bytes) (to : List Bytes) (body : Bytes) :
    (sendMail c auth frm to body).1.plainLog = c.plainLog ∨
    (sendMail c auth frm to body).1.plainLog = (c.initStartTLS).1.plainLog := by
  unfold sendMail
  by_cases hv : (!validLine frm || to.any fun t => !validLine t) = true
  · rw [if_pos hv]; exact Or.inl rfl
  · rw [if_neg hv]
    right
    cases hp : c.initStartTLS with
    | mk c1 e =>
    cases e with
    | some e => rfl
    | none =>
      have h0 : Sealed c1.plainLog c1 := ⟨rfl, by have := initStartTLS_ok c (by rw [hp]); rw [hp] at this; exact this⟩
      simp -zeta only []
      extract_lets authStep
      have ha : Sealed c1.plainLog authStep.1 := by
        unfold authStep
        cases auth with
        | false => exact h0
        | true =>
          rw [if_pos rfl]
          have h1 := call_sealed c1 (.ext "AUTH".b) h0
          generalize c1.call (.ext "AUTH".b) = q at h1 ⊢
          obtain ⟨c2, r⟩ := q
          dsimp only
          by_cases hs : r.res.startsWith "true" = true
          · rw [if_pos hs]; exact call_sealed c2 _ h1
          · rw [if_neg hs]; exact h1
      clear_value authStep
      obtain ⟨c2, _ | e⟩ := authStep
      · exact (runUntilErr_sealed _ c2 ha).1
      · exact ha.1

end SmtpV.Client
