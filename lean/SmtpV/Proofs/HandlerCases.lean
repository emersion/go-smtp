import SmtpV.Proofs.ParamSwitch
/-!
Equations of the server model, read off once: what the primitives do to each field, and what each handler does (the guards at
its head refuse the command with one reply, or hand over to the part that does the work).  Proofs about a handler start from
these instead of unfolding it.
-/
namespace SmtpV.Server
open SmtpV SmtpV.Spec SmtpV.Wire SmtpV.Reply SmtpV.Text SmtpV.Parse

@[simp] theorem emit_cfg (s : S) (e : Ev) : (emit s e).cfg = s.cfg := rfl
@[simp] theorem emit_c (s : S) (e : Ev) : (emit s e).c = s.c := rfl
@[simp] theorem emit_evs (s : S) (e : Ev) : (emit s e).evs = e :: s.evs := rfl
@[simp] theorem emit_w (s : S) (e : Ev) : (emit s e).w = s.w := rfl
@[simp] theorem emit_tlsW (s : S) (e : Ev) : (emit s e).tlsW = s.tlsW := rfl

@[simp] theorem write_c (s : S) (bs : Bytes) : (write s bs).c = s.c := by unfold write; cases s.c.closed <;> rfl
@[simp] theorem write_cfg (s : S) (bs : Bytes) : (write s bs).cfg = s.cfg := by unfold write; cases s.c.closed <;> rfl
@[simp] theorem write_w (s : S) (bs : Bytes) : (write s bs).w = s.w := by unfold write; cases s.c.closed <;> rfl
theorem write_evs (s : S) (bs : Bytes) :
    (write s bs).evs = (if s.c.closed then [] else [Ev.w bs]) ++ s.evs := by
  unfold write; cases s.c.closed <;> rfl

@[simp] theorem reply_c (s : S) (code : Nat) (enh : Enh) (t : String) : (reply s code enh t).c = s.c := write_c _ _
@[simp] theorem replyB_c (s : S) (code : Nat) (enh : Enh) (t : List Bytes) : (replyB s code enh t).c = s.c := write_c _ _
@[simp] theorem reply_cfg (s : S) (code : Nat) (enh : Enh) (t : String) : (reply s code enh t).cfg = s.cfg := write_cfg _ _
@[simp] theorem replyB_cfg (s : S) (code : Nat) (enh : Enh) (t : List Bytes) : (replyB s code enh t).cfg = s.cfg := write_cfg _ _
@[simp] theorem reply_w (s : S) (code : Nat) (enh : Enh) (t : String) : (reply s code enh t).w = s.w := write_w _ _
@[simp] theorem replyB_w (s : S) (code : Nat) (enh : Enh) (t : List Bytes) : (replyB s code enh t).w = s.w := write_w _ _
theorem reply_evs (s : S) (code : Nat) (enh : Enh) (t : String) :
    (reply s code enh t).evs = (if s.c.closed then [] else [Ev.w (render code enh [t.b])]) ++ s.evs := write_evs _ _
theorem replyB_evs (s : S) (code : Nat) (enh : Enh) (t : List Bytes) :
    (replyB s code enh t).evs = (if s.c.closed then [] else [Ev.w (render code enh t)]) ++ s.evs := write_evs _ _

@[simp] theorem setDrec_c (s : S) (k : Nat) (f : DRec → DRec) : (setDrec s k f).c = s.c := rfl
@[simp] theorem setDrec_cfg (s : S) (k : Nat) (f : DRec → DRec) : (setDrec s k f).cfg = s.cfg := rfl
@[simp] theorem setDrec_evs (s : S) (k : Nat) (f : DRec → DRec) : (setDrec s k f).evs = s.evs := rfl
@[simp] theorem setDrec_w (s : S) (k : Nat) (f : DRec → DRec) : (setDrec s k f).w = s.w := rfl

@[simp] theorem setBinarymime_cfg (s : S) (b : Bool) : (setBinarymime s b).cfg = s.cfg := rfl
@[simp] theorem setBinarymime_evs (s : S) (b : Bool) : (setBinarymime s b).evs = s.evs := rfl
@[simp] theorem setBinarymime_session (s : S) (b : Bool) : (setBinarymime s b).c.session = s.c.session := rfl
@[simp] theorem setBinarymime_bdat (s : S) (b : Bool) : (setBinarymime s b).c.bdat = s.c.bdat := rfl
@[simp] theorem setBinarymime_closed (s : S) (b : Bool) : (setBinarymime s b).c.closed = s.c.closed := rfl
@[simp] theorem setHelo_cfg (s : S) (d : Bytes) : (setHelo s d).cfg = s.cfg := rfl
@[simp] theorem setHelo_evs (s : S) (d : Bytes) : (setHelo s d).evs = s.evs := rfl
@[simp] theorem setHelo_session (s : S) (d : Bytes) : (setHelo s d).c.session = s.c.session := rfl
@[simp] theorem setHelo_closed (s : S) (d : Bytes) : (setHelo s d).c.closed = s.c.closed := rfl
@[simp] theorem setW_cfg (s : S) (w : Wire.W) : (setW s w).cfg = s.cfg := rfl
@[simp] theorem setW_c (s : S) (w : Wire.W) : (setW s w).c = s.c := rfl
@[simp] theorem setW_evs (s : S) (w : Wire.W) : (setW s w).evs = s.evs := rfl
@[simp] theorem setW_w (s : S) (w : Wire.W) : (setW s w).w = w := rfl
@[simp] theorem setLimit_cfg (s : S) (n : Nat) : (setLimit s n).cfg = s.cfg := rfl
@[simp] theorem setLimit_c (s : S) (n : Nat) : (setLimit s n).c = s.c := rfl
@[simp] theorem armLimit_cfg (s : S) : (armLimit s).cfg = s.cfg := rfl
@[simp] theorem armLimit_c (s : S) : (armLimit s).c = s.c := rfl
@[simp] theorem addBytesReceived_cfg (s : S) (n : Nat) : (addBytesReceived s n).cfg = s.cfg := rfl

theorem delivFinish_c (s : S) (k : Nat) (e : RdEnd) : (delivFinish s k e).c = s.c := by
  unfold delivFinish; dsimp only; split <;> rfl

theorem delivFinish_cfg (s : S) (k : Nat) (e : RdEnd) : (delivFinish s k e).cfg = s.cfg := by
  unfold delivFinish; dsimp only; split <;> rfl

theorem setBdatStatus_eq (s : S) : ∃ st, setBdatStatus s = { s with c := { s.c with bdatStatus := st } } := by
  unfold setBdatStatus
  cases s.c.bdatStatus.isNone && s.cfg.lmtp
  · exact ⟨s.c.bdatStatus, rfl⟩
  · exact ⟨_, rfl⟩

theorem discardChunkN_eq (s : S) (size? : Option Nat) : ∃ w, discardChunkN s size? = setW s w := by
  cases size? <;> exact ⟨_, rfl⟩

/-- `bdatPipe.Write`: a delivery that is not running takes nothing; a running one appends what it takes to its record, and
    returns once it has read all it wanted -/
theorem delivWrite_cases (s : S) (k : Nat) (bs : Bytes) :
    (delivWrite s k bs).1 = s ∨
    (delivWrite s k bs).1 = setDrec s k (fun d => { d with octets := d.octets ++ bs.take (delivTake s k bs) }) ∨
    (delivWrite s k bs).1 =
      delivFinish (setDrec s k (fun d => { d with octets := d.octets ++ bs.take (delivTake s k bs) })) k .none := by
  unfold delivWrite
  by_cases hr : (!delivRunning s k) = true
  · rw [if_pos hr]; exact .inl rfl
  · rw [if_neg hr]
    dsimp only
    by_cases hd : delivReached s k (delivTake s k bs) = true
    · rw [if_pos hd]; exact .inr (.inr rfl)
    · rw [if_neg hd]; exact .inr (.inl rfl)

theorem abortBdat_c (s : S) : (abortBdat s).c = { s.c with bdat := none } := by
  unfold abortBdat
  split
  · rfl
  · rename_i h; exact h ▸ rfl

theorem logoutSess_c (s : S) : (logoutSess s).c = { s.c with session := none } := by
  unfold logoutSess
  split
  · rfl
  · rename_i h; exact h ▸ rfl

theorem resetSess_c (s : S) : (resetSess s).c = s.c := by unfold resetSess; split <;> rfl

theorem closeSock_c (s : S) : (closeSock s).c = { s.c with closed := true } := by
  unfold closeSock
  split
  · rename_i h; exact h ▸ rfl
  · rfl

theorem closeConn_c (s : S) : (closeConn s).c = { s.c with bdat := none, session := none, closed := true } := by
  simp only [closeConn, closeSock_c, logoutSess_c, abortBdat_c]

theorem resetConn_c (s : S) : (resetConn s).c =
    { s.c with bdat := none, bdatStatus := none, bytesReceived := 0, fromReceived := false, recipients := [] } := by
  simp only [resetConn, clearEnvelope, resetSess_c, abortBdat_c]

theorem closeConn_closed (s : S) : (closeConn s).c.closed = true := by rw [closeConn_c]

theorem tlsUpgrade_c (s : S) :
    (tlsUpgrade s).c = { s.c with tls := true, session := none, helo := [], didAuth := false, bdat := none,
                                  bdatStatus := none, bytesReceived := 0, fromReceived := false, recipients := [] } := by
  simp only [tlsUpgrade, resetConn_c, forgetGreeting, logoutSess_c, switchWire]

/-- all that taking a decision off the backend script changes -/
def Popped (s s' : S) : Prop := ∃ be, s' = { s with be := be }

theorem popNs_popped (s : S) : Popped s (popNs s).2 := by unfold popNs; split <;> exact ⟨_, rfl⟩
theorem popMail_popped (s : S) : Popped s (popMail s).2 := by unfold popMail; split <;> exact ⟨_, rfl⟩
theorem popRcpt_popped (s : S) : Popped s (popRcpt s).2 := by unfold popRcpt; split <;> exact ⟨_, rfl⟩
theorem popData_popped (s : S) : Popped s (popData s).2 := by unfold popData; split <;> exact ⟨_, rfl⟩
theorem popAuth_popped (s : S) : Popped s (popAuth s).2 := by unfold popAuth; split <;> exact ⟨_, rfl⟩
theorem popSasl_popped (s : S) : Popped s (popSasl s).2 := by unfold popSasl; split <;> exact ⟨_, rfl⟩
theorem popHs_popped (s : S) : Popped s (popHs s).2 := by unfold popHs; split <;> exact ⟨_, rfl⟩

/-- `s'` is `s` after `n` writes on the socket -/
inductive Wrote : Nat → S → S → Prop
  | nil (s : S) : Wrote 0 s s
  | cons {n : Nat} {s s' : S} (bs : Bytes) : Wrote n (write s bs) s' → Wrote (n + 1) s s'

theorem Wrote.one (s : S) (bs : Bytes) : Wrote 1 s (write s bs) := .cons bs (.nil _)

theorem Wrote.eq {n : Nat} {s s' : S} (h : Wrote n s s') : ∃ evs wac, s' = { s with evs := evs, wac := wac } := by
  induction h with
  | nil s => exact ⟨_, _, rfl⟩
  | @cons n s s' bs _ ih =>
    obtain ⟨evs, wac, rfl⟩ := ih
    unfold write
    cases s.c.closed <;> exact ⟨_, _, rfl⟩

theorem Wrote.c {n : Nat} {s s' : S} (h : Wrote n s s') : s'.c = s.c := let ⟨_, _, e⟩ := h.eq; e ▸ rfl
theorem Wrote.cfg {n : Nat} {s s' : S} (h : Wrote n s s') : s'.cfg = s.cfg := let ⟨_, _, e⟩ := h.eq; e ▸ rfl

theorem Wrote.evs {n : Nat} {s s' : S} (h : Wrote n s s') : ∃ tl, s'.evs = tl ++ s.evs ∧ ∀ e ∈ tl, ∃ bs, e = Ev.w bs := by
  induction h with
  | nil s => exact ⟨[], rfl, fun _ h => nomatch h⟩
  | cons bs _ ih =>
    obtain ⟨tl, h1, h2⟩ := ih
    rw [write_evs, ← List.append_assoc] at h1
    refine ⟨_, h1, fun e he => ?_⟩
    rcases List.mem_append.mp he with he | he
    · exact h2 e he
    · rw [List.mem_ite_nil_left] at he; exact ⟨bs, List.mem_singleton.mp he.2⟩

theorem greetReply_wrote (s : S) (e : Bool) (d : Bytes) : Wrote 1 s (greetReply s e d) := by
  unfold greetReply; split <;> exact .one _ _

theorem writeLmtpStatuses_wrote (sts : List (Bytes × BRes)) : ∀ s : S, Wrote sts.length s (writeLmtpStatuses s sts) := by
  induction sts with
  | nil => exact .nil
  | cons x xs ih => exact fun s => .cons _ (ih _)

theorem collect_length (rcpts : List Bytes) (q : List (Bytes × BRes)) (fill : BRes) : (collect rcpts q fill).length = rcpts.length := by
  have : ∀ rest seen, (collect.go q fill rest seen).length = rest.length := by
    intro rest
    induction rest with
    | nil => exact fun _ => rfl
    | cons a rest ih => exact fun seen => congrArg (· + 1) (ih _)
  exact this _ _

def finalReplies (s : S) : Nat := if s.cfg.lmtp then s.c.recipients.length else 1

def chunkReplies (s : S) (last : Bool) : Nat := if last then finalReplies s else 1

theorem Wrote.final_smtp {s s' : S} (hl : s.cfg.lmtp = false) (bs : Bytes) : Wrote (finalReplies s) s' (write s' bs) := by
  rw [finalReplies, hl]; exact .one s' bs

theorem Wrote.final_lmtp {s s' : S} (hl : s.cfg.lmtp = true) {sts : List (Bytes × BRes)} (h : sts.length = s.c.recipients.length) :
    Wrote (finalReplies s) s' (writeLmtpStatuses s' sts) := by
  rw [finalReplies, hl, if_pos rfl, ← h]; exact writeLmtpStatuses_wrote sts s'

/-- the conditions under which DATA is answered 354 -/
def dataAccepted (s : S) (arg : Bytes) : Bool :=
  arg.isEmpty && !s.c.bdat.isSome && !s.c.binarymime && !(!s.c.fromReceived || s.c.recipients.isEmpty)

theorem dataAccepted_iff (s : S) (arg : Bytes) : dataAccepted s arg = true ↔
    arg = [] ∧ s.c.bdat = none ∧ s.c.binarymime = false ∧ s.c.fromReceived = true ∧ s.c.recipients ≠ [] := by
  simp [dataAccepted, and_assoc]

theorem handleData_refused (s : S) (arg : Bytes) (h : dataAccepted s arg = false) :
    ∃ code enh text, handleData s arg = (reply s code enh text, false) := by
  unfold handleData
  unfold dataAccepted at h
  by_cases h1 : arg.isEmpty = true
  case neg => exact ⟨_, _, _, if_pos (by simpa using h1)⟩
  rw [if_neg (by simpa using h1)]
  by_cases h2 : s.c.bdat.isSome = true
  · exact ⟨_, _, _, if_pos h2⟩
  rw [if_neg h2]
  by_cases h3 : s.c.binarymime = true
  · exact ⟨_, _, _, if_pos h3⟩
  rw [if_neg h3]
  by_cases h4 : (!s.c.fromReceived || s.c.recipients.isEmpty) = true
  · exact ⟨_, _, _, if_pos h4⟩
  · simp [h1, h2, h3, h4] at h

/-- 354, then the delivery; for lack of a session, a panic -/
theorem handleData_accepted (s : S) (arg : Bytes) (h : dataAccepted s arg = true) :
    ∃ s1, Wrote 1 s s1 ∧ handleData s arg =
      match s.c.session with
      | none => (resetConn s1, true)
      | some id => dataSync s1 id := by
  simp only [dataAccepted, Bool.and_eq_true, Bool.not_eq_true'] at h
  obtain ⟨⟨⟨h1, h2⟩, h3⟩, h4⟩ := h
  refine ⟨_, .one s ?_, ?_⟩
  case refine_2 =>
    unfold handleData
    simp only [h1, h2, h3, h4, Bool.not_true, Bool.false_eq_true, if_false]
    rw [reply_c]
    cases s.c.session <;> rfl

/-- the state in which the backend of the DATA command starts to read -/
def dataStart (s : S) (id : Nat) : S :=
  emit (beginData (popData s).2 id (popData s).1).1 (.dataBegin id (beginData (popData s).2 id (popData s).1).2)

theorem dataStart_fields (s : S) (id : Nat) : (dataStart s id).cfg = s.cfg ∧ (dataStart s id).c = s.c ∧ (dataStart s id).w = s.w ∧
    (dataStart s id).tlsW = s.tlsW ∧ (dataStart s id).drecs = s.drecs ++ [{ k := s.drecs.length, sess := id }] := by
  obtain ⟨_, h⟩ := popData_popped s
  unfold dataStart beginData
  rw [h]; exact ⟨rfl, rfl, rfl, rfl, rfl⟩

/-- the reads of the DATA backend: the reader and the wire they leave, the octets handed over, how the reader ended -/
def dataReads (s : S) : DataReader.DR × W × Bytes × RdEnd :=
  backendRead (wireFuel s.w) (newDataReader s) s.w (popData s).1.want (popData s).1.rsz []

def dataFinish (s : S) (k : Nat) (r1 : DataReader.DR) (octets : Bytes) (e : RdEnd) (dec : DataDec) : S × Bool :=
  if !s.cfg.lmtp then dataFinishSmtp s k r1 octets e dec
  else if !s.cfg.lmtpSess then dataFinishLmtpPlain s k r1 octets e dec
  else dataFinishLmtpSess s k r1 octets e dec

def endRec (octets : Bytes) (e : RdEnd) (ret : BRes) (d : DRec) : DRec :=
  { d with octets := octets, rdEnd := e, ret := ret, finished := true }

/-- after the backend's return, in every mode: the panic escapes to `handle`; or the delivery goroutine of an `LMTPSession`
    recovers it (log, statuses, `Close`); or the rest of the message is drained and the verdict sent -/
theorem dataFinish_cases (s : S) (k : Nat) (r1 : DataReader.DR) (octets : Bytes) (e : RdEnd) (dec : DataDec) :
    ∃ ret x,
      dataFinish s k r1 octets e dec = (resetConn (setDrec s k (endRec octets e ret)), true) ∨
      (Wrote (finalReplies s) (emit (setDrec s k (endRec octets e ret)) .panicLog) x ∧
        dataFinish s k r1 octets e dec = (resetConn (closeConn x), false)) ∨
      (Wrote (finalReplies s) (setW (setDrec s k (endRec octets e ret)) (drain (wireFuel s.w) r1 s.w)) x ∧
        dataFinish s k r1 octets e dec = (resetConn x, false)) := by
  unfold dataFinish
  cases hl : s.cfg.lmtp
  · refine ⟨resolveRet dec.ret e, ?_⟩
    rw [if_pos Bool.not_false]
    unfold dataFinishSmtp
    dsimp only
    cases resolveRet dec.ret e == .panic
    · exact ⟨_, .inr (.inr ⟨.final_smtp hl _, rfl⟩)⟩
    · exact ⟨s, .inl rfl⟩
  rw [if_neg nofun]
  cases s.cfg.lmtpSess
  · refine ⟨resolveRet dec.ret e, ?_⟩
    rw [if_pos Bool.not_false]
    unfold dataFinishLmtpPlain
    dsimp only
    cases resolveRet dec.ret e == .panic
    · exact ⟨_, .inr (.inr ⟨.final_lmtp hl (List.length_map _), rfl⟩)⟩
    · exact ⟨s, .inl rfl⟩
  · rw [if_neg nofun]
    unfold dataFinishLmtpSess
    dsimp only
    generalize (if (applyStatuses s.c.recipients dec.statuses []).2 = true then resolveRet dec.ret e else BRes.panic) = ret
    refine ⟨ret, ?_⟩
    cases ret == .panic
    · exact ⟨_, .inr (.inr ⟨.final_lmtp hl (collect_length _ _ _), rfl⟩)⟩
    · exact ⟨_, .inr (.inl ⟨.final_lmtp hl (collect_length _ _ _), rfl⟩)⟩

theorem dataSync_eq (s : S) (id : Nat) :
    dataSync s id =
      dataFinish (setW (dataStart s id) (dataReads s).2.1)
        s.drecs.length (dataReads s).1
        (dataReads s).2.2.1
        (dataReads s).2.2.2 (popData s).1 := by
  obtain ⟨_, h⟩ := popData_popped s
  unfold dataSync dataFinish dataReads dataStart
  dsimp only
  rw [h]
  rfl

/-- a refusal with `discardChunk`; the 552 for a message over `MaxMessageBytes`, with `reset`; or the chunk is taken -/
theorem handleBdat_cases (s : S) (arg : Bytes) :
    (∃ code enh text size?, handleBdat s arg = (discardChunkN (reply s code enh text) size?, false)) ∨
    (∃ size, handleBdat s arg = (resetConn (discardChunkN (reply s 552 ⟨5, 3, 4⟩ "Max message size exceeded") (some size)), false)) ∨
    (∃ size last, s.c.fromReceived = true ∧ s.c.recipients.isEmpty = false ∧
      ¬ (s.cfg.maxMsg ≠ 0 ∧ s.c.bytesReceived + size > s.cfg.maxMsg) ∧ handleBdat s arg = bdatChunk s size last) := by
  fun_cases handleBdat s arg with
  | case1 | case5 => exact .inl ⟨_, _, _, none, rfl⟩         -- no argument; the size is no number: nothing to skip
  | case2 | case3 | case4 => exact .inl ⟨_, _, _, _, rfl⟩    -- too many arguments; no transaction; a second argument other than LAST
  | case6 _ _ _ _ _ _ _ size hs => exact .inr (.inl ⟨size, by rw [hs]⟩)    -- over the limit
  | case7 _ _ _ _ _ h2 _ _ size _ h4 =>                                    -- accepted
    simp only [Bool.or_eq_true, Bool.not_eq_true', not_or, Bool.not_eq_false] at h2
    exact .inr (.inr ⟨size, _, h2.1, by simpa using h2.2,
      by simpa only [Bool.and_eq_true, bne_iff_ne, decide_eq_true_eq] using h4, rfl⟩)

/-- after `io.Copy` into the pipe: the error path; "250 Continue"; or, for the LAST chunk, the end of the message -/
theorem bdatAfterCopy_cases (s : S) (k size left : Nat) (last : Bool) (ce : CopyEnd) :
    (∃ err, bdatAfterCopy s k size left last ce = bdatFail s k left last err) ∨
    (last = false ∧ ce = .done ∧
      bdatAfterCopy s k size left last ce = (reply (armLimit (addBytesReceived s size)) 250 ⟨2, 0, 0⟩ "Continue", false)) ∨
    (last = true ∧ ce = .done ∧ bdatAfterCopy s k size left last ce = bdatFinal (armLimit (addBytesReceived s size)) k) := by
  cases ce with
  | short => exact .inl ⟨_, rfl⟩
  | srcErr e => exact .inl ⟨_, rfl⟩
  | pipeErr => exact .inl (by unfold bdatAfterCopy; dsimp only; split <;> exact ⟨_, rfl⟩)
  | done =>
    unfold bdatAfterCopy bdatDone
    cases last
    · exact .inr (.inl ⟨rfl, rfl, rfl⟩)
    · exact .inr (.inr ⟨rfl, rfl, if_neg Bool.false_ne_true⟩)

theorem bdatFailReplies_wrote (s : S) (k : Nat) (last : Bool) (err : BRes) :
    Wrote (chunkReplies s last) s (bdatFailReplies s k last err) := by
  unfold bdatFailReplies chunkReplies
  cases last
  · rw [Bool.and_false]; exact .one _ _
  cases hl : s.cfg.lmtp
  · exact .final_smtp hl _
  · simp only [Bool.and_self, if_true]
    cases delivRunning s k
    · rw [if_neg nofun]
      cases s.cfg.lmtpSess
      · exact .final_lmtp hl (List.length_map _)
      · exact .final_lmtp hl (collect_length _ _ _)
    · exact .final_lmtp hl (List.length_map _)

/-- the LAST chunk has been copied: `bdatPipe.Close()`, the verdict(s), then `reset` — or `Close` when the backend has panicked -/
theorem bdatFinal_cases (s : S) (k : Nat) :
    ∃ x, Wrote (finalReplies s) (if delivRunning s k then delivFinish s k .eof else s) x ∧
      (bdatFinal s k = (closeConn x, false) ∨ bdatFinal s k = (resetConn x, false)) := by
  have hf : finalReplies (if delivRunning s k then delivFinish s k .eof else s) = finalReplies s := by
    split
    · rw [finalReplies, delivFinish_cfg, delivFinish_c]; rfl
    · rfl
  rw [← hf]
  unfold bdatFinal
  dsimp only
  generalize (if delivRunning s k then delivFinish s k .eof else s) = s1
  refine ⟨_, ?_, (Decidable.em _).elim (fun h => .inl (if_pos h)) fun h => .inr (if_neg h)⟩
  cases hl : s1.cfg.lmtp
  · exact .final_smtp hl _
  · rw [if_pos rfl]
    cases s1.cfg.lmtpSess
    · exact .final_lmtp hl (List.length_map _)
    · rw [if_neg nofun]
      split <;> exact .final_lmtp hl (collect_length _ _ _)

/-- one round of the SASL exchange: a panic escapes; the end of the exchange and an error are answered; else the challenge goes
    out, a line is read (`s4`), and a cancelled or undecodable response is answered, or the loop goes on -/
theorem saslLoop_cases (fuel : Nat) (s : S) (resp : Option Bytes) :
    ∃ st s2 p, saslLoop (fuel + 1) s resp = p ∧ st = (popSasl s).1 ∧
      s2 = emit (popSasl s).2 (.sasl resp st.challenge st.done st.res) ∧
      ((st.res = .panic ∧ p = (s2, true)) ∨
       (st.res = .ok ∧ st.done = true ∧ ∃ bs, p = (write { s2 with c := { s2.c with didAuth := true } } bs, false)) ∨
       (st.res ≠ .ok ∧ ∃ bs, p = (write s2 bs, false)) ∨
       (st.res = .ok ∧ st.done = false ∧ ∃ bs s4 r, connReadLine (write s2 bs) = (s4, r) ∧
         (p = (s4, false) ∨ (∃ bs', p = (write s4 bs', false)) ∨ ∃ resp', p = saslLoop fuel s4 (some resp')))) := by
  refine ⟨_, _, _, rfl, rfl, rfl, ?_⟩
  rw [saslLoop]
  dsimp only
  generalize (popSasl s).1 = st
  obtain ⟨ch, done, res⟩ := st
  dsimp only
  cases res with
  | panic => exact .inl ⟨rfl, rfl⟩
  | se _ _ _ => exact .inr (.inr (.inl ⟨nofun, _, rfl⟩))
  | er _ => exact .inr (.inr (.inl ⟨nofun, _, rfl⟩))
  | ok =>
    cases done with
    | true => exact .inr (.inl ⟨rfl, rfl, _, rfl⟩)
    | false =>
      rw [if_neg Bool.false_ne_true]
      refine .inr (.inr (.inr ⟨rfl, rfl, ?_⟩))
      generalize hq : connReadLine _ = q
      obtain ⟨s4, r⟩ := q
      refine ⟨_, s4, r, hq, ?_⟩
      cases r with
      | error e => exact .inl rfl
      | ok line =>
        dsimp only
        by_cases hc : (line == [42]) = true
        · exact .inr (.inl ⟨_, if_pos hc⟩)
        · rw [if_neg hc]
          cases decodeSASLResponse line with
          | none => exact .inr (.inl ⟨_, rfl⟩)
          | some resp' => exact .inr (.inr ⟨resp', rfl⟩)

/-- the `AuthSession.Auth` call and what follows it: the tail of `handleAuth` (conn.go) -/
def authCall (s : S) (id : Nat) (mech : Bytes) (ir : Option Bytes) : S × Bool :=
  let (r, s) := popAuth s
  let s := emit s (.authMech id mech r)
  match r with
  | .ok => saslLoop (s.w.segs.length + s.w.buf.length + 4) s ir
  | .panic => (s, true)
  | e => (write s (renderError 454 ⟨4, 7, 0⟩ e), false)

/-- a refusal; the nil-session panic; or `AuthSession.Auth` is reached -/
theorem handleAuth_cases (s : S) (arg : Bytes) :
    (∃ bs, handleAuth s arg = (write s bs, false)) ∨
    (authAllowed s = true ∧ s.c.session = none ∧ handleAuth s arg = (s, true)) ∨
    (∃ id mech ir, s.c.helo.isEmpty = false ∧ s.c.didAuth = false ∧ authAllowed s = true ∧ s.c.session = some id ∧
      s.cfg.authSess = true ∧ handleAuth s arg = authCall s id mech ir) := by
  unfold handleAuth
  by_cases h1 : s.c.helo.isEmpty = true
  · exact .inl ⟨_, if_pos h1⟩
  rw [if_neg h1]
  by_cases h2 : s.c.didAuth = true
  · exact .inl ⟨_, if_pos h2⟩
  rw [if_neg h2]
  cases fields arg with
  | nil => exact .inl ⟨_, rfl⟩
  | cons mech0 more =>
    dsimp only
    by_cases h3 : (!authAllowed s) = true
    · exact .inl ⟨_, if_pos h3⟩
    rw [if_neg h3]
    split
    · exact .inl ⟨_, rfl⟩
    · rename_i ir _
      cases hs : s.c.session with
      | none => exact .inr (.inl ⟨by simpa using h3, rfl, rfl⟩)
      | some id =>
        dsimp only
        by_cases h4 : (!s.cfg.authSess) = true
        · exact .inl ⟨_, if_pos h4⟩
        · exact .inr (.inr ⟨id, _, ir, eq_false_of_ne_true h1, eq_false_of_ne_true h2, by simpa using h3, rfl, by simpa using h4, if_neg h4⟩)

theorem handleStartTLS_refused (s : S) (h : s.c.tls = true ∨ s.cfg.tlsAvail = false) :
    ∃ text, handleStartTLS s = reply s 502 ⟨5, 5, 1⟩ text := by
  unfold handleStartTLS
  by_cases ht : s.c.tls = true
  · exact ⟨_, if_pos ht⟩
  · rw [if_neg ht]
    exact ⟨_, if_pos (by simpa [ht] using h)⟩

/-- 220, `tlsConn.Handshake()`, then 550 in plaintext or the upgrade -/
theorem handleStartTLS_accepted (s : S) (ht : s.c.tls = false) (ha : s.cfg.tlsAvail = true) :
    ∃ s1, Wrote 1 s s1 ∧ handleStartTLS s =
      if (popHs s1).1 then tlsUpgrade (emit (popHs s1).2 (.tlsStart true))
      else reply (emit (popHs s1).2 (.tlsStart false)) 550 ⟨5, 0, 0⟩ "Handshake error" := by
  refine ⟨reply s 220 ⟨2, 0, 0⟩ "Ready to start TLS", .one s _, ?_⟩
  unfold handleStartTLS
  simp only [ht, ha, Bool.false_eq_true, if_false, Bool.not_true]
  cases (popHs (reply s 220 ⟨2, 0, 0⟩ "Ready to start TLS")).1 <;> rfl

/-- 501 without a domain; `reset` on a connection that has a session; else `Backend.NewSession` and its three outcomes -/
theorem handleGreet_cases (s : S) (e : Bool) (arg : Bytes) :
    (parseHelloArgument arg = none ∧ ∃ text, handleGreet s e arg = (reply s 501 ⟨5, 5, 2⟩ text, false)) ∨
    ∃ d, parseHelloArgument arg = some d ∧
      ((s.c.session.isSome = true ∧ handleGreet s e arg = (greetReply (resetConn (setHelo s d)) e d, false)) ∨
       (s.c.session = none ∧ handleGreet s e arg =
          match (newSession (setHelo s d) d).2 with
          | .ok => (greetReply (newSession (setHelo s d) d).1 e d, false)
          | .panic => ((newSession (setHelo s d) d).1, true)
          | r => (write (setHelo (newSession (setHelo s d) d).1 []) (renderError 451 ⟨4, 0, 0⟩ r), false))) := by
  unfold handleGreet
  cases hp : parseHelloArgument arg with
  | none => exact .inl ⟨rfl, _, rfl⟩
  | some d =>
    refine .inr ⟨d, rfl, ?_⟩
    dsimp only
    cases hs : s.c.session with
    | some id => exact .inl ⟨rfl, by rw [show (setHelo s d).c.session = some id from hs]⟩
    | none =>
      refine .inr ⟨rfl, ?_⟩
      rw [show (setHelo s d).c.session = none from hs]
      dsimp only
      cases (newSession (setHelo s d) d).2 <;> rfl

theorem dispatchGreet_cases (s : S) (cmd arg : Bytes) :
    (∃ text, dispatchGreet s cmd arg = reply s 500 ⟨5, 5, 1⟩ text) ∨
    ∃ e, dispatchGreet s cmd arg = recoverPanic (handleGreet s e arg) := by
  fun_cases dispatchGreet s cmd arg with
  | case1 | case2 => exact .inl ⟨_, rfl⟩    -- the verb does not fit the server's mode
  | case3 => exact .inr ⟨_, rfl⟩

/-- how a `Session.Mail` or `Session.Rcpt` call ends; in `s` the call is logged, in `c'` the acceptance noted in the envelope -/
inductive Called (r : BRes) (s : S) (c' : Conn) : S × Bool → Prop
  | ok (bs : Bytes) : r = .ok → Called r s c' (write { s with c := c' } bs, false)
  | panic : r = .panic → Called r s c' (s, true)
  | err (bs : Bytes) : r ≠ .ok → Called r s c' (write s bs, false)

theorem Called.evs {r : BRes} {s : S} {c' : Conn} {p : S × Bool} (h : Called r s c' p) :
    ∃ tl, p.1.evs = tl ++ s.evs ∧ ∀ e ∈ tl, ∃ bs, e = Ev.w bs := by
  cases h with
  | ok bs _ => exact (Wrote.one _ bs).evs
  | panic _ => exact ⟨[], rfl, fun _ h => nomatch h⟩
  | err bs _ => exact (Wrote.one s bs).evs

theorem mailCall_called (s : S) (id : Nat) (frm : Bytes) (opts : MailOpts) :
    Called (popMail s).1 (emit (popMail s).2 (.mail id frm opts (popMail s).1)) { (popMail s).2.c with fromReceived := true }
      (mailCall s id frm opts) := by
  unfold mailCall
  dsimp only
  split
  · exact .ok _ ‹_›
  · exact .panic ‹_›
  · exact .err _ ‹_›

/-- a 5xx (the switch's refusal also clears `binarymime`); the nil-session panic; or `Session.Mail` with what `mailDecode` read -/
theorem handleMail_cases (s : S) (arg : Bytes) :
    (∃ (b : Bool) (code : Nat) (enh : Enh) (text : String), 500 ≤ code ∧ code ≤ 599 ∧ enh.a = 5 ∧
      handleMail s arg = (reply (if b then setBinarymime s false else s) code enh text, false)) ∨
    (∃ frm opts bm, Props.C11.mailDecode (effCfg s) arg = some (frm, opts, bm) ∧ s.c.session = none ∧
      handleMail s arg = (setBinarymime s bm, true)) ∨
    (∃ id frm opts bm, Props.C11.mailDecode (effCfg s) arg = some (frm, opts, bm) ∧ s.c.helo.isEmpty = false ∧
      s.c.bdat = none ∧ s.c.session = some id ∧ handleMail s arg = mailCall (setBinarymime s bm) id frm opts) := by
  fun_cases handleMail s arg with
  | case1 | case2 => exact .inl ⟨false, 502, _, _, by decide, by decide, rfl, rfl⟩           -- no greeting yet; a chunked transfer is open
  | case3 | case4 | case5 => exact .inl ⟨false, 501, _, _, by decide, by decide, rfl, rfl⟩   -- no `FROM:`; no path; parameters that do not parse
  | case6 _ _ _ _ _ _ _ _ _ code enh text hm =>                                              -- the parameter switch refuses
    obtain ⟨k1, k2, k3⟩ := Props.C11.mailParams_refuse_5xx _ _ _ _ _ _ _ hm
    exact .inl ⟨true, code, enh, text, k1, k2, k3, rfl⟩
  | case7 _ _ a ha frm rest hp args hargs opts bm hm hs =>                                    -- no session
    exact .inr (.inl ⟨frm, opts, bm, by simp only [Props.C11.mailDecode, ha, hp, hargs, hm], hs, rfl⟩)
  | case8 h1 h2 a ha frm rest hp args hargs opts bm hm id hs =>                              -- the call
    exact .inr (.inr ⟨id, frm, opts, bm, by simp only [Props.C11.mailDecode, ha, hp, hargs, hm], by simpa using h1,
      by simpa using h2, hs, rfl⟩)

end SmtpV.Server

namespace SmtpV.Props.C14
open SmtpV SmtpV.Spec SmtpV.Server SmtpV.Reply SmtpV.Text

/-- the `Session.Rcpt` call and the reply to it: the tail of `handleRcpt` (conn.go), spelled out to state the theorem -/
def rcptCall (s : S) (id : Nat) (rcpt : Bytes) (opts : RcptOpts) : S × Bool :=
  let (r, s) := popRcpt s
  let s := emit s (.rcpt id rcpt opts r)
  match r with
  | .ok =>
    let s := { s with c := { s.c with recipients := s.c.recipients ++ [rcpt] } }
    (replyB s 250 ⟨2, 0, 0⟩ ["I'll make sure <".b ++ printable rcpt ++ "> gets this".b], false)
  | .panic => (s, true)
  | e => (write s (Reply.renderError 451 ⟨4, 0, 0⟩ e), false)

end SmtpV.Props.C14

namespace SmtpV.Server
open SmtpV SmtpV.Spec SmtpV.Wire SmtpV.Reply SmtpV.Text SmtpV.Parse

theorem rcptCall_called (s : S) (id : Nat) (rcpt : Bytes) (opts : RcptOpts) :
    Called (popRcpt s).1 (emit (popRcpt s).2 (.rcpt id rcpt opts (popRcpt s).1))
      { (popRcpt s).2.c with recipients := (popRcpt s).2.c.recipients ++ [rcpt] } (Props.C14.rcptCall s id rcpt opts) := by
  unfold Props.C14.rcptCall
  dsimp only
  split
  · exact .ok _ ‹_›
  · exact .panic ‹_›
  · exact .err _ ‹_›

/-- a 5xx; 452 at `MaxRecipients`; the nil-session panic; or `Session.Rcpt` with what `rcptDecode` read -/
theorem handleRcpt_cases (s : S) (arg : Bytes) :
    (∃ (code : Nat) (enh : Enh) (text : String), 500 ≤ code ∧ code ≤ 599 ∧ enh.a = 5 ∧
      handleRcpt s arg = (reply s code enh text, false)) ∨
    (∃ texts, s.cfg.maxRcpt > 0 ∧ s.c.recipients.length ≥ s.cfg.maxRcpt ∧
      handleRcpt s arg = (replyB s 452 ⟨4, 5, 3⟩ texts, false)) ∨
    (∃ rcpt opts, Props.C11.rcptDecode s.cfg arg = some (rcpt, opts) ∧ s.c.session = none ∧ handleRcpt s arg = (s, true)) ∨
    (∃ id rcpt opts, Props.C11.rcptDecode s.cfg arg = some (rcpt, opts) ∧ s.c.fromReceived = true ∧ s.c.bdat = none ∧
      ¬ (s.cfg.maxRcpt > 0 ∧ s.c.recipients.length ≥ s.cfg.maxRcpt) ∧ s.c.session = some id ∧
      handleRcpt s arg = Props.C14.rcptCall s id rcpt opts) := by
  unfold handleRcpt Props.C11.rcptDecode
  by_cases h1 : (!s.c.fromReceived) = true
  · exact .inl ⟨502, _, _, by decide, by decide, rfl, if_pos h1⟩
  rw [if_neg h1]
  by_cases h2 : s.c.bdat.isSome = true
  · exact .inl ⟨502, _, _, by decide, by decide, rfl, if_pos h2⟩
  rw [if_neg h2]
  cases cutPrefixFold arg "TO:".b with
  | none => exact .inl ⟨501, _, _, by decide, by decide, rfl, rfl⟩
  | some a =>
  dsimp only
  cases parsePath (trimSpace a) with
  | none => exact .inl ⟨501, _, _, by decide, by decide, rfl, rfl⟩
  | some pr =>
  dsimp only
  by_cases h3 : (decide (s.cfg.maxRcpt > 0) && decide (s.c.recipients.length ≥ s.cfg.maxRcpt)) = true
  · have hl : s.cfg.maxRcpt > 0 ∧ s.c.recipients.length ≥ s.cfg.maxRcpt := by
      simpa only [Bool.and_eq_true, decide_eq_true_eq] using h3
    exact .inr (.inl ⟨_, hl.1, hl.2, if_pos h3⟩)
  rw [if_neg h3]
  cases parseArgs pr.2 with
  | none => exact .inl ⟨501, _, _, by decide, by decide, rfl, rfl⟩
  | some args =>
  dsimp only
  cases hm : rcptParams s.cfg args {} with
  | refuse code enh text =>
    obtain ⟨k1, k2, k3⟩ := Props.C11.rcptParams_refuse_5xx _ _ _ _ _ _ hm
    exact .inl ⟨code, enh, text, k1, k2, k3, rfl⟩
  | ok opts =>
  dsimp only
  cases hs : s.c.session with
  | none => exact .inr (.inr (.inl ⟨_, opts, rfl, rfl, rfl⟩))
  | some id =>
    exact .inr (.inr (.inr ⟨id, _, opts, rfl, by simpa using h1, by simpa using h2,
      by simpa only [Bool.and_eq_true, decide_eq_true_eq] using h3, rfl, rfl⟩))

open Props.C11 in
theorem handleMail_decoded {s : S} {arg frm : Bytes} {o : MailOpts} {bm : Bool} {id : Nat}
    (hd : mailDecode (effCfg s) arg = some (frm, o, bm)) (hhelo : s.c.helo ≠ []) (hb : s.c.bdat = none)
    (hs : s.c.session = some id) : handleMail s arg = mailCall (setBinarymime s bm) id frm o := by
  obtain ⟨a, rest, args, h1, h2, h3, h4⟩ := mailDecode_some hd
  simp only [handleMail, List.isEmpty_eq_false_iff.mpr hhelo, hb, Option.isSome_none, Bool.false_eq_true, if_false, h1, h2, h3,
    h4, hs]

open Props.C11 Props.C14 in
theorem handleRcpt_decoded {s : S} {arg rcpt : Bytes} {o : RcptOpts} {id : Nat}
    (hd : rcptDecode s.cfg arg = some (rcpt, o)) (hfrom : s.c.fromReceived = true) (hb : s.c.bdat = none)
    (hs : s.c.session = some id) (hmax : s.cfg.maxRcpt = 0 ∨ s.c.recipients.length < s.cfg.maxRcpt) :
    handleRcpt s arg = rcptCall s id rcpt o := by
  obtain ⟨a, rest, args, h1, h2, h3, h4⟩ := rcptDecode_some hd
  have hm : (s.cfg.maxRcpt > 0 && s.c.recipients.length ≥ s.cfg.maxRcpt) = false := by
    rcases hmax with h | h
    · rw [h]; rfl
    · rw [decide_eq_false (Nat.not_le.mpr h), Bool.and_false]
  simp only [handleRcpt, hfrom, hb, Option.isSome_none, Bool.not_true, Bool.false_eq_true, if_false, h1, h2, hm, h3, h4, hs]
  rfl

end SmtpV.Server
