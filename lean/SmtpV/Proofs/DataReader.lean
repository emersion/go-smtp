import SmtpV.Proofs.Scan
import SmtpV.Model.DataReader
/-!
A greedy, octet-at-a-time semantics of the DATA reader (`step`/`feed`/`run`), convenient for induction over lines, and `RunD`
("the greedy run splits here"), through which the executable `readLoop`/`read`/`readSched` and the wire model are related to it.
-/
namespace SmtpV.DataReader
open SmtpV

/-- Greedy semantics: everything the loop stores while consuming the octet `c`
    (the un-read of `stateDotCR` is folded in: the withheld CR and then `c`). -/
def step : St → Byte → St × Bytes
  | .bol, c => if c = DOT then (.dot, []) else if c = CR then (.cr, [c]) else (.data, [c])
  | .dot, c => if c = CR then (.dotcr, []) else (.data, [c])
  | .dotcr, c => if c = LF then (.eof, []) else if c = CR then (.cr, [CR, CR]) else (.data, [CR, c])
  | .cr, c => if c = LF then (.bol, [c]) else if c = CR then (.cr, [c]) else (.data, [c])
  | .data, c => if c = CR then (.cr, [c]) else (.data, [c])
  | .eof, _ => (.eof, [])

/-- greedy read: final state, octets delivered, input left unread -/
def run : St → Bytes → St × Bytes × Bytes
  | .eof, inp => (.eof, [], inp)
  | s, [] => (s, [], [])
  | s, c :: inp =>
    let r := run (step s c).1 inp
    (r.1, (step s c).2 ++ r.2.1, r.2.2)

def feed : St → Bytes → St × Bytes
  | s, [] => (s, [])
  | s, c :: inp =>
    let r := feed (step s c).1 inp
    (r.1, (step s c).2 ++ r.2)

@[simp] theorem cr_eq_lf : (CR = LF) ↔ False := by decide
@[simp] theorem lf_eq_cr : (LF = CR) ↔ False := by decide
@[simp] theorem cr_eq_dot : (CR = DOT) ↔ False := by decide
@[simp] theorem dot_eq_cr : (DOT = CR) ↔ False := by decide
@[simp] theorem lf_eq_dot : (LF = DOT) ↔ False := by decide
@[simp] theorem dot_eq_lf : (DOT = LF) ↔ False := by decide
theorem DOT_ne_CR : DOT ≠ CR := by decide
theorem CR_ne_LF : CR ≠ LF := by decide
theorem DOT_ne_LF : DOT ≠ LF := by decide

@[simp] theorem run_eof (inp : Bytes) : run .eof inp = (.eof, [], inp) := by
  cases inp <;> rfl

@[simp] theorem run_nil (s : St) : run s [] = (s, [], []) := by
  cases s <;> rfl

theorem run_cons (s : St) (hs : s ≠ .eof) (c : Byte) (inp : Bytes) :
    run s (c :: inp) = ((run (step s c).1 inp).1, (step s c).2 ++ (run (step s c).1 inp).2.1,
      (run (step s c).1 inp).2.2) := by
  cases s with
  | eof => exact absurd rfl hs
  | _ => rfl

theorem feed_append (s : St) (a b : Bytes) :
    feed s (a ++ b) = ((feed (feed s a).1 b).1, (feed s a).2 ++ (feed (feed s a).1 b).2) := by
  induction a generalizing s with
  | nil => simp [feed]
  | cons c a ih => simp [feed, ih, List.append_assoc]

theorem feed_eof (a : Bytes) : feed .eof a = (.eof, []) := by
  induction a with
  | nil => rfl
  | cons c a ih => simp [feed, step, ih]

end SmtpV.DataReader

namespace SmtpV.Server
open SmtpV.DataReader

/-- the greedy run from `(s, p)` is: hand out `out`, then the greedy run from `(s', p')` -/
def RunD (s : St) (p : Bytes) (s' : St) (p' out : Bytes) : Prop :=
  run s p = ((run s' p').1, out ++ (run s' p').2.1, (run s' p').2.2)

theorem RunD.rfl' (s : St) (p : Bytes) : RunD s p s p [] := by simp [RunD]

theorem RunD.trans {s s1 s2 : St} {p p1 p2 o1 o2 : Bytes}
    (h1 : RunD s p s1 p1 o1) (h2 : RunD s1 p1 s2 p2 o2) : RunD s p s2 p2 (o1 ++ o2) := by
  unfold RunD at *; rw [h1, h2]; simp

theorem RunD.cons {s s1 s' : St} {c : Byte} {p p' o1 out : Bytes} (hs : s ≠ .eof) (e : step s c = (s1, o1))
    (h : RunD s1 p s' p' out) : RunD s (c :: p) s' p' (o1 ++ out) := by
  unfold RunD at *; rw [run_cons s hs, e, h]; simp

theorem RunD.eof {s : St} {p p' out : Bytes} (h : RunD s p .eof p' out) : run s p = (.eof, out, p') := by
  simpa [RunD] using h

theorem RunD.of_eof {s s' : St} {p p' out o rest : Bytes} (h : RunD s p s' p' out)
    (hE : run s p = (.eof, o, rest)) : ∃ o', o = out ++ o' ∧ run s' p' = (.eof, o', rest) := by
  rw [RunD, hE, Prod.mk.injEq, Prod.mk.injEq] at h
  exact ⟨_, h.2.1, Prod.ext h.1.symm (Prod.ext rfl h.2.2.symm)⟩

end SmtpV.Server

namespace SmtpV.DataReader
open SmtpV SmtpV.Server

theorem run_of_feed (s : St) (a b : Bytes) (h : (feed s a).1 ≠ .eof) :
    run s (a ++ b) = ((run (feed s a).1 b).1, (feed s a).2 ++ (run (feed s a).1 b).2.1,
                      (run (feed s a).1 b).2.2) := by
  induction a generalizing s with
  | nil => simp [feed]
  | cons c a ih =>
    have hs : s ≠ .eof := by
      intro e; subst e; simp [feed_eof] at h
    have h' : (feed (step s c).1 a).1 ≠ .eof := by simpa [feed] using h
    have := ih (step s c).1 h'
    simp only [List.cons_append, run_cons s hs, this, feed, List.append_assoc]

theorem step_eq_it (s : St) (c : Byte) : s ≠ .dotcr → s ≠ .eof → step s c = ((it s c).1, (it s c).2.1.toList) := by
  fun_cases it s c <;> simp [step, *]

theorem it_cr (c : Byte) : it .cr c = ((it .cr c).1, some c, true) := by
  by_cases h1 : c = LF <;> by_cases h2 : c = CR <;> simp [it, h1, h2]

theorem step_cr (c : Byte) : step .cr c = ((it .cr c).1, [c]) := by
  rw [step_eq_it .cr c (by decide) (by decide), congrArg (·.2.1) (it_cr c)]; rfl

theorem step_dotcr (c : Byte) (h : c ≠ LF) : step .dotcr c = ((it .cr c).1, [CR, c]) := by
  by_cases hc : c = CR <;> simp [step, it, h, hc]

theorem readLoop_append (s : St) (inp : Bytes) (k : Nat) (t : Bytes) :
    RunD s (inp ++ t) (readLoop s inp k).1 ((readLoop s inp k).2.2 ++ t) (readLoop s inp k).2.1 := by
  fun_induction readLoop s inp k with
  | case1 s inp => exact RunD.rfl' _ _
  | case2 inp k hk => exact RunD.rfl' _ _
  | case3 s k hk hs => exact RunD.rfl' _ _
  | case4 inp k => exact RunD.cons (by decide) rfl (RunD.rfl' _ _)
  | case5 c inp h => simp [RunD, run_cons, step_dotcr c h, step_cr]
  | case6 c inp h k' s' r ih => exact RunD.cons (by decide) (step_dotcr c h) ih
  | case7 s c inp k hs1 hs2 s' e b hit r ih =>
    exact RunD.cons hs1 ((step_eq_it s c hs2 hs1).trans (by rw [hit])) ih
  | case8 s c inp k hs1 hs2 s' b hit r ih =>
    exact RunD.cons (o1 := []) hs1 ((step_eq_it s c hs2 hs1).trans (by rw [hit]; rfl)) ih

open SmtpV.Spec

/-- where the reader stands after the text `u` inside a line, entered in state `s`: after a CR if `u` ends in one, else in `data` -/
def midState (s : St) (u : Bytes) : St :=
  match u.getLast? with
  | none => s
  | some c => if c = CR then .cr else .data

theorem midState_cons (s : St) (c : Byte) (u : Bytes) :
    midState s (c :: u) = midState (if c = CR then .cr else .data) u := by
  cases u with
  | nil => simp [midState]
  | cons d u => simp [midState, List.getLast?_cons]

theorem midState_ne_eof (s : St) (u : Bytes) (hs : s ≠ .eof) : midState s u ≠ .eof := by
  unfold midState
  split
  · exact hs
  · split <;> decide

theorem step_mid (s : St) (c : Byte) (hs : s = .data ∨ s = .cr) (hc : s = .cr → c ≠ LF) :
    step s c = (if c = CR then .cr else .data, [c]) := by
  rcases hs with rfl | rfl
  · exact (apply_ite (·, [c]) ..).symm
  · exact (if_neg (hc rfl)).trans (apply_ite (·, [c]) ..).symm

/-- inside a line (state `data`/`cr`) octets are copied; the state remembers a trailing CR -/
theorem feed_mid (u : Bytes) (s : St) (hs : s = .data ∨ s = .cr)
    (hcr : s = .cr → u.head? ≠ some LF) (hn : NoCRLF u) :
    feed s u = (midState s u, u) := by
  induction u generalizing s with
  | nil => rfl
  | cons c u ih =>
    have hst := step_mid s c hs (fun h e => hcr h (by simp [e]))
    have hh : (if c = CR then St.cr else .data) = .cr → u.head? ≠ some LF := fun h => by
      by_cases e : c = CR
      · exact NoCRLF_head (e ▸ hn)
      · simp [e] at h
    have := ih _ (by split <;> simp) hh (NoCRLF_tail hn)
    simp only [feed, hst, this, midState_cons s c u, List.singleton_append]

theorem feed_mid_eol (u : Bytes) (s : St) (hs : s = .data ∨ s = .cr)
    (hcr : s = .cr → (u ++ [CR]).head? ≠ some LF) (hn : NoCRLF (u ++ [CR])) :
    feed s (u ++ [CR, LF]) = (.bol, u ++ [CR, LF]) := by
  rw [List.append_cons, feed_append, feed_mid (u ++ [CR]) s hs hcr hn]
  simp [midState, feed, step]

theorem feed_bol (c : Byte) (t : Bytes) (h : c ≠ DOT) : feed .bol (c :: t) = feed .data (c :: t) := by
  simp [feed, step, h]

theorem feed_bol_dot (t : Bytes) : feed .bol (DOT :: t) = feed .dot t := by simp [feed, step]

theorem feed_dot (c : Byte) (t : Bytes) (h : c ≠ CR) : feed .dot (c :: t) = feed .data (c :: t) := by
  simp [feed, step, h]

theorem feed_dot_cr (c : Byte) (t : Bytes) (h : c ≠ LF) :
    feed .dot (CR :: c :: t) = ((feed .cr (c :: t)).1, CR :: (feed .cr (c :: t)).2) := by
  simp [feed, step_dotcr c h, step_cr, show step .dot CR = (.dotcr, []) from rfl]

theorem unstuff_append {u : Bytes} (v : Bytes) (h : u ≠ []) : unstuff (u ++ v) = unstuff u ++ v := by
  cases u with
  | nil => exact absurd rfl h
  | cons c t => by_cases hc : c = DOT <;> simp [unstuff, hc]

/-- the three exceptions are the proper prefixes of the marker line: nothing is delivered for those -/
theorem feed_bol_mid (u : Bytes) (hn : NoCRLF u) (h0 : u ≠ []) (h1 : u ≠ [DOT]) (h2 : u ≠ [DOT, CR]) :
    feed .bol u = (midState .data u, unstuff u) := by
  -- by the first two octets: no dot, as in mid-line; `.` and no CR, the dot goes; `.\r` and no LF (by `hn`), the withheld CR comes out
  cases u with
  | nil => exact absurd rfl h0
  | cons c t =>
    by_cases hc : c = DOT
    · subst hc
      have hn1 := NoCRLF_tail hn
      cases t with
      | nil => exact absurd rfl h1
      | cons d t =>
        by_cases hd : d = CR
        · subst hd
          cases t with
          | nil => exact absurd rfl h2
          | cons e t =>
            have he : e ≠ LF := fun h => NoCRLF_head hn1 (by simp [h])
            rw [feed_bol_dot, feed_dot_cr e t he,
              feed_mid (e :: t) .cr (Or.inr rfl) (fun _ => by simpa using he) (NoCRLF_tail hn1)]
            simp [midState_cons, unstuff]
        · rw [feed_bol_dot, feed_dot d t hd, feed_mid (d :: t) .data (Or.inl rfl) nofun hn1]
          simp [midState_cons, unstuff]
    · rw [feed_bol c _ hc, feed_mid (c :: t) .data (Or.inl rfl) nofun hn]
      simp [unstuff, hc]

theorem feed_line (l : Bytes) (hl : IsLine l) (hm : l ≠ marker) :
    feed .bol l = (.bol, unstuff l) := by
  obtain ⟨t, rfl, hn⟩ := hl
  rw [List.append_cons, feed_append, unstuff_append _ (by simp),
    feed_bol_mid (t ++ [CR]) hn (by simp) (by cases t <;> simp)
      (fun h => hm (by rw [List.append_cons, h]; rfl))]
  simp [midState, feed, step]

theorem run_marker (rest : Bytes) : run .bol (Spec.marker ++ rest) = (.eof, [], rest) := by
  simp [Spec.marker, run, step]

theorem runD_marker (rest : Bytes) : RunD .bol (Spec.marker ++ rest) .eof rest [] := by
  rw [RunD, run_marker, run_eof]; rfl

theorem feed_lines (ls : List Bytes) (h : ∀ l ∈ ls, IsLine l ∧ l ≠ Spec.marker) :
    feed .bol ls.flatten = (.bol, (ls.map unstuff).flatten) := by
  induction ls with
  | nil => simp [feed]
  | cons l ls ih =>
    have hl := h l List.mem_cons_self
    have ih' := ih (fun x hx => h x (List.mem_cons_of_mem _ hx))
    simp [List.flatten_cons, feed_append, feed_line l hl.1 hl.2, ih']

/-- every terminated stream yields exactly its body, then EOF, leaving exactly `rest` -/
theorem run_terminated (s body rest : Bytes) (h : Terminated s body rest) :
    run .bol s = (.eof, body, rest) := by
  obtain ⟨ls, rfl, hls, rfl⟩ := h
  have hf := feed_lines ls hls
  have : (feed .bol ls.flatten).1 ≠ .eof := by simp [hf]
  rw [List.append_assoc, run_of_feed _ _ _ this, hf, run_marker]
  simp

theorem feed_bol_noCRLF (s : Bytes) (hn : NoCRLF s) : (feed .bol s).1 ≠ .eof := by
  by_cases h0 : s = []
  · subst h0; simp [feed]
  by_cases h1 : s = [DOT]
  · subst h1; simp [feed, step]
  by_cases h2 : s = [DOT, CR]
  · subst h2; simp [feed, step]
  rw [feed_bol_mid s hn h0 h1 h2]
  exact midState_ne_eof _ _ (by decide)

theorem readLoop_eof (inp : Bytes) (k : Nat) : readLoop .eof inp k = (.eof, [], inp) := by
  cases k <;> cases inp <;> rfl

theorem readLoop_len (s : St) (inp : Bytes) (k : Nat) : (readLoop s inp k).2.1.length ≤ k := by
  fun_induction readLoop s inp k with
  | case1 | case2 | case3 | case4 => exact Nat.zero_le _
  | case5 => exact Nat.le_refl _
  | case6 _ _ _ _ _ _ ih => exact Nat.succ_le_succ (Nat.succ_le_succ ih)
  | case7 _ _ _ _ _ _ _ _ _ _ _ ih => exact Nat.succ_le_succ ih
  | case8 _ _ _ _ _ _ _ _ _ _ ih => exact ih

theorem readLoop_stop (s : St) (inp : Bytes) (k : Nat) (h : (readLoop s inp k).2.1.length < k) :
    (readLoop s inp k).1 = .eof ∨ (readLoop s inp k).2.2 = [] := by
  fun_induction readLoop s inp k with
  | case1 => exact absurd h (Nat.not_lt_zero _)
  | case2 | case4 => exact .inl rfl
  | case3 => exact .inr rfl
  | case5 => exact absurd h (Nat.lt_irrefl _)
  | case6 _ _ _ _ _ _ ih => exact ih (Nat.lt_of_succ_lt_succ (Nat.lt_of_succ_lt_succ h))
  | case7 _ _ _ _ _ _ _ _ _ _ _ ih => exact ih (Nat.lt_of_succ_lt_succ h)
  | case8 _ _ _ _ _ _ _ _ _ _ ih => exact ih h

/-- states in which the loop can be left with a full buffer -/
def Boundary (s : St) : Prop := s = .bol ∨ s = .cr ∨ s = .data

theorem Boundary.ne_eof {s : St} (h : Boundary s) : s ≠ .eof := by
  rcases h with rfl | rfl | rfl <;> decide

theorem it_emit_boundary (s : St) (c e : Byte) (s' : St) (b : Bool) (h : it s c = (s', some e, b)) :
    Boundary s' := by
  revert h
  fun_cases it s c <;> intro h <;> cases h <;> simp [Boundary]

theorem readLoop_boundary (s : St) (inp : Bytes) (k : Nat) (hb : Boundary s ∨ 0 < k)
    (h : (readLoop s inp k).2.1.length = k) : Boundary (readLoop s inp k).1 := by
  fun_induction readLoop s inp k with
  | case1 s inp => exact hb.resolve_right (Nat.lt_irrefl 0)
  | case2 inp k hk => exact absurd h.symm hk
  | case3 s k hk hs => exact absurd h.symm hk
  | case4 inp k => cases h
  | case5 c inp hc => exact .inr (.inl rfl)
  | case6 c inp hc k' s' r ih =>
    exact ih (.inl (it_emit_boundary .cr c c _ true (it_cr c))) (Nat.succ.inj (Nat.succ.inj h))
  | case7 s c inp k hs1 hs2 s' e b hit r ih => exact ih (.inl (it_emit_boundary s c e s' b hit)) (Nat.succ.inj h)
  | case8 s c inp k hs1 hs2 s' b hit r ih => exact ih (.inr (Nat.succ_pos k)) h

/-- EOF with nothing delivered means that exactly the marker was read (`run_boundary_nil`): octet by octet -/
theorem run_cons_nil {s : St} {a : Byte} {t r : Bytes} (hs : s ≠ .eof) (h : run s (a :: t) = (.eof, [], r)) :
    (step s a).2 = [] ∧ run (step s a).1 t = (.eof, [], r) := by
  rw [run_cons s hs] at h
  simp only [Prod.mk.injEq, List.append_eq_nil_iff] at h
  exact ⟨h.2.1.1, Prod.ext h.1 (Prod.ext h.2.1.2 h.2.2)⟩

theorem run_dotcr_nil (inp r : Bytes) (h : run .dotcr inp = (.eof, [], r)) : inp = LF :: r := by
  cases inp with
  | nil => simp at h
  | cons a t =>
    obtain ⟨h1, h2⟩ := run_cons_nil (by decide) h
    by_cases ha : a = LF
    · subst ha; simpa [step] using h2
    · by_cases hc : a = CR <;> simp [step, ha, hc] at h1

theorem run_dot_nil (inp r : Bytes) (h : run .dot inp = (.eof, [], r)) : inp = CR :: LF :: r := by
  cases inp with
  | nil => simp at h
  | cons a t =>
    obtain ⟨h1, h2⟩ := run_cons_nil (by decide) h
    by_cases ha : a = CR
    · subst ha; rw [run_dotcr_nil t r (by simpa [step] using h2)]
    · simp [step, ha] at h1

theorem run_boundary_nil (s : St) (inp rest0 : Bytes) (hb : Boundary s)
    (h : run s inp = (.eof, [], rest0)) : s = .bol ∧ inp = Spec.marker ++ rest0 := by
  cases inp with
  | nil => rw [run_nil] at h; exact absurd (congrArg Prod.fst h) hb.ne_eof
  | cons a t =>
    obtain ⟨h1, h2⟩ := run_cons_nil hb.ne_eof h
    rcases hb with rfl | rfl | rfl
    · by_cases ha : a = DOT
      · subst ha; rw [run_dot_nil t rest0 (by simpa [step] using h2)]; exact ⟨rfl, rfl⟩
      · by_cases hc : a = CR <;> simp [step, ha, hc] at h1
    · rw [step_cr] at h1; cases h1
    · by_cases hc : a = CR <;> simp [step, hc] at h1

end SmtpV.DataReader
