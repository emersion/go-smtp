import SmtpV.Proofs.ByteEq
import SmtpV.Spec.Order
/-!
Facts about traces the ordering monitor accepts, stated on the trace itself (no monitor state in the statement): they turn
`order_accepts_every_connection` into readable corollaries for C09 and C10.  One induction, `run_cut`: a property of the
monitor's state that holds at the start and that every accepted event other than a `brk` keeps still holds where a later event
is accepted, if no `brk` came before it.  `accepted_between` turns it round: between an event that establishes the property and
a later one that the monitor does not accept in such a state there is a `brk`.
-/
namespace SmtpV.Spec.Order
open SmtpV SmtpV.Spec

theorem run_ok_of_check {cfg : Cfg} {a : A} {evs : List Ev} (h : check cfg a evs = []) : ∃ m, run cfg a evs = .ok m := by
  unfold check at h
  split at h
  · exact ⟨_, by assumption⟩
  · simp at h

theorem run_cons_ok {cfg : Cfg} {a m : A} {e : Ev} {t : List Ev} :
    run cfg a (e :: t) = .ok m ↔ ∃ a1, step cfg a e = .ok a1 ∧ run cfg a1 t = .ok m := by
  rw [run]
  cases step cfg a e <;> simp

theorem run_cut {cfg : Cfg} {P : A → Prop} {brk : Ev → Bool}
    (keep : ∀ {a a1 e}, step cfg a e = .ok a1 → brk e = false → P a → P a1) {e : Ev} {post : List Ev} {m : A}
    {mid : List Ev} {a : A} (h : run cfg a (mid ++ e :: post) = .ok m) (hp : P a) (hno : ∀ x ∈ mid, brk x = false) :
    ∃ a1 a2, P a1 ∧ step cfg a1 e = .ok a2 ∧ run cfg a2 post = .ok m := by
  induction mid generalizing a with
  | nil =>
    obtain ⟨a1, hs, hr⟩ := run_cons_ok.1 h
    exact ⟨a, a1, hp, hs, hr⟩
  | cons x mid ih =>
    obtain ⟨a1, hs, hr⟩ := run_cons_ok.1 h
    exact ih hr (keep hs (hno x List.mem_cons_self) hp) fun y hy => hno y (List.mem_cons_of_mem _ hy)

theorem run_cut_after {cfg : Cfg} {P : A → Prop} {brk : Ev → Bool}
    (keep : ∀ {a a1 e}, step cfg a e = .ok a1 → brk e = false → P a → P a1)
    {a : A} {pre mid post : List Ev} {e1 e2 : Ev}
    (h : check cfg a (pre ++ e1 :: (mid ++ e2 :: post)) = [])
    (est : ∀ {a a1}, step cfg a e1 = .ok a1 → P a1) (hmid : ∀ x ∈ mid, brk x = false) :
    ∃ a1 a2, P a1 ∧ step cfg a1 e2 = .ok a2 := by
  obtain ⟨m, h⟩ := run_ok_of_check h
  obtain ⟨_, _, -, hs1, hrest⟩ := run_cut (P := fun _ => True) (brk := fun _ => false) (fun _ _ _ => trivial) h trivial (by simp)
  obtain ⟨a3, a4, hp, hs2, -⟩ := run_cut keep hrest (est hs1) hmid
  exact ⟨a3, a4, hp, hs2⟩

theorem accepted_between {cfg : Cfg} {P : A → Prop} {brk : Ev → Bool}
    (keep : ∀ {a a1 e}, step cfg a e = .ok a1 → brk e = false → P a → P a1)
    {a : A} {pre mid post : List Ev} {e1 e2 : Ev}
    (h : check cfg a (pre ++ e1 :: (mid ++ e2 :: post)) = [])
    (est : ∀ {a a1}, step cfg a e1 = .ok a1 → P a1)
    (rej : ∀ {a a1}, step cfg a e2 = .ok a1 → ¬ P a) : ∃ x ∈ mid, brk x = true := by
  refine Decidable.byContradiction fun hex => ?_
  obtain ⟨a3, a4, hp, hs2⟩ := run_cut_after keep h est (fun x hx => by
    cases hb : brk x with
    | false => rfl
    | true => exact absurd ⟨x, hx, hb⟩ hex)
  exact rej hs2 hp

def isTlsUp : Ev → Bool
  | .tlsStart true => true
  | _ => false

def isAuthEv : Ev → Bool
  | .sasl .. => true
  | .authMech .. => true
  | _ => false

def isAuthSuccess : Ev → Bool
  | .sasl _ _ done r => done && r == .ok
  | _ => false

def endsSession : Ev → Bool
  | .logout _ => true
  | .ns .. => true
  | _ => false

variable {cfg : Cfg} {a a1 : A} {e : Ev}

theorem step_tls (h : step cfg a e = .ok a1) : a1.tls = (a.tls || isTlsUp e) := by
  replace h := (step_ok.1 h).2
  cases e <;> simp [isTlsUp, h]
  case tlsStart ok => cases ok <;> rfl

theorem step_authed (h : step cfg a e = .ok a1) : a1.authed = (!endsSession e && (a.authed || isAuthSuccess e)) := by
  replace h := (step_ok.1 h).2
  cases e <;> simp [endsSession, isAuthSuccess, h]

theorem step_authEv (h : step cfg a e = .ok a1) (he : isAuthEv e = true) :
    (a.tls || cfg.insecureAuth) = true ∧ a.authed = false := by
  cases e
  case authMech | sasl =>
    obtain ⟨-, -, hsec, hno, -⟩ := step_ok.1 h
    exact ⟨Bool.or_eq_true_iff.2 hsec, hno⟩
  all_goals cases he

theorem accepted_no_auth_before_tls {a : A} {pre post : List Ev} {e : Ev} (h : check cfg a (pre ++ e :: post) = [])
    (hins : cfg.insecureAuth = false) (htls : a.tls = false) (hno : ∀ x ∈ pre, isTlsUp x = false) : isAuthEv e = false := by
  obtain ⟨m, h⟩ := run_ok_of_check h
  obtain ⟨a1, a2, ht1, h2, -⟩ := run_cut (P := fun a => a.tls = false) (brk := isTlsUp)
    (fun hs hb hp => by rw [step_tls hs, hb, hp]; rfl) h htls hno
  cases hb : isAuthEv e with
  | false => rfl
  | true => simpa [ht1, hins] using (step_authEv h2 hb).1

theorem accepted_auth_once {a : A} {pre mid post : List Ev} {e1 e2 : Ev}
    (h : check cfg a (pre ++ e1 :: (mid ++ e2 :: post)) = [])
    (h1 : isAuthSuccess e1 = true) (h2 : isAuthEv e2 = true) : ∃ e ∈ mid, endsSession e = true :=
  accepted_between (P := fun a => a.authed = true) (fun hs hb hp => by rw [step_authed hs, hb, hp]; rfl) h
    (fun hs => by
      have hn : endsSession e1 = false := by cases e1 <;> first | rfl | cases h1
      rw [step_authed hs, hn, h1]; simp)
    (fun hs hp => by simpa [hp] using (step_authEv hs h2).2)

def usesSession : Ev → Bool
  | .mail .. | .rcpt .. | .dataBegin .. | .authMech .. | .sasl .. | .reset .. => true
  | _ => false

def isNs : Ev → Bool
  | .ns .. => true
  | _ => false

/-- no session may be used: there is none, or the one there is must be logged out first -/
def Stale (a : A) : Prop := a.live.isSome = true → a.upgrading = true

theorem step_stale (h : step cfg a e = .ok a1) (hs : Stale a) (he : isNs e = false) : Stale a1 ∧ usesSession e = false := by
  obtain ⟨hb, h⟩ := step_ok.1 h
  -- nobody is logged in, or this is the Logout that is waited for
  have hl : a.live = none ∨ ∃ id, e = .logout id :=
    (Option.eq_none_or_eq_some a.live).elim .inl fun ⟨_, h'⟩ => hb (hs (h' ▸ rfl))
  suffices a1.live = none ∧ usesSession e = false from ⟨fun h1 => absurd (this.1 ▸ h1) nofun, this.2⟩
  rcases hl with hl | ⟨id, rfl⟩
  · -- an event that needs a session is not accepted; of the others only `ns` logs one in
    cases e
    case logout | reset | mail | rcpt | dataBegin | authMech => cases hl.symm.trans h.1
    case sasl => exact absurd hl h.1
    case ns => cases he
    all_goals simp [h, hl, usesSession]
  · simp [h, usesSession]

theorem usesSession_not_ns (h : usesSession e = true) : isNs e = false := by
  cases e <;> first | rfl | cases h

theorem tlsUp_stale (h : step cfg a (.tlsStart true) = .ok a1) : Stale a1 ∧ a1.tls = true := by
  obtain ⟨-, -, -, rfl⟩ := (step_ok.1 h).2
  exact ⟨id, by simp⟩

theorem accepted_upgrade_discards {a : A} {pre mid post : List Ev} {e : Ev}
    (h : check cfg a (pre ++ .tlsStart true :: (mid ++ e :: post)) = []) (hu : usesSession e = true) :
    ∃ x ∈ mid, isNs x = true :=
  accepted_between (P := Stale) (fun hs hb hp => (step_stale hs hp hb).1) h (fun hs => (tlsUp_stale hs).1)
    (fun hs hp => by simpa [hu] using (step_stale hs hp (usesSession_not_ns hu)).2)

theorem accepted_ns_sees_tls {a : A} {pre mid post : List Ev} {id : Nat} {helo : Bytes} {tls : Bool} {r : BRes}
    (h : check cfg a (pre ++ .tlsStart true :: (mid ++ .ns id helo tls r :: post)) = []) : tls = true := by
  obtain ⟨a3, a4, hp, hs⟩ := run_cut_after (P := fun a => a.tls = true) (brk := fun _ => false)
    (fun hs _ hp => by rw [step_tls hs, hp]; rfl) h (fun hs => (tlsUp_stale hs).2) (fun _ _ => rfl)
  obtain ⟨-, -, -, -, htls, -⟩ := step_ok.1 hs
  exact htls.trans hp

end SmtpV.Spec.Order
