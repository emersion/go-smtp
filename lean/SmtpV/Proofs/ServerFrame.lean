import SmtpV.Proofs.HandlerCases
/-!
What the operations of the server model leave alone.  Replies, backend callbacks, `reset`, `Close` and the refusals of every
handler are `Quiet`, one lemma per operation.  Outside the frame: reading a line and `discardChunkN` move the wire only; the
switch to TLS is quiet after `switchWire`; the DATA delivery ends as `DataEnd` says; an accepted chunk starts as `Begun` says
and ends in `bdatFail_shape` or `calm_bdatFinal`.
-/
namespace SmtpV.Server
open SmtpV SmtpV.Spec SmtpV.Wire SmtpV.Reply

/-- delivery `k` is recorded as having seen a clean end of file -/
def eofAt (s : S) (k : Nat) : Prop := ∃ d, s.drecs[k]? = some d ∧ d.rdEnd = .eof

def NoNewEof (s s' : S) : Prop := ∀ k, eofAt s' k → eofAt s k

/-- every delivery record of `s'` holds the octets it held in `s` (no delivery was handed anything) -/
def SameOctets (s s' : S) : Prop :=
  ∀ (j : Nat) (d' : DRec), s'.drecs[j]? = some d' → ∃ d : DRec, s.drecs[j]? = some d ∧ d'.octets = d.octets

/-- how many octets delivery `j` has been handed (0 if there is no such delivery) -/
def octLen (s : S) (j : Nat) : Nat := ((s.drecs[j]?).map (fun d => d.octets.length)).getD 0

def GrowBy (s s' : S) (m : Nat) : Prop := ∀ j, octLen s' j ≤ octLen s j + m

theorem NoNewEof.rfl' (s : S) : NoNewEof s s := fun _ h => h
theorem NoNewEof.trans {a b c : S} (h1 : NoNewEof a b) (h2 : NoNewEof b c) : NoNewEof a c := fun k h => h1 k (h2 k h)
theorem NoNewEof.of_drecs {s s' : S} (h : s'.drecs = s.drecs) : NoNewEof s s' := by
  intro k ⟨d, hd, he⟩; exact ⟨d, by rw [← h]; exact hd, he⟩

theorem SameOctets.rfl' (s : S) : SameOctets s s := fun _ d' h => ⟨d', h, rfl⟩
theorem SameOctets.trans {a b c : S} (h1 : SameOctets a b) (h2 : SameOctets b c) : SameOctets a c := by
  intro j d' h
  obtain ⟨d1, hd1, e1⟩ := h2 j d' h
  obtain ⟨d0, hd0, e0⟩ := h1 j d1 hd1
  exact ⟨d0, hd0, by rw [e1, e0]⟩
theorem SameOctets.of_drecs {s s' : S} (h : s'.drecs = s.drecs) : SameOctets s s' := by
  intro j d' hd; exact ⟨d', by rw [← h]; exact hd, rfl⟩

theorem GrowBy.rfl' (s : S) : GrowBy s s 0 := fun _ => Nat.le_refl _
theorem GrowBy.trans {a b c : S} {m1 m2 : Nat} (h1 : GrowBy a b m1) (h2 : GrowBy b c m2) : GrowBy a c (m1 + m2) :=
  fun j => Nat.add_assoc _ m1 m2 ▸ Nat.le_trans (h2 j) (Nat.add_le_add_right (h1 j) m2)
theorem GrowBy.mono {a b : S} {m m' : Nat} (h : GrowBy a b m) (hm : m ≤ m') : GrowBy a b m' :=
  fun j => Nat.le_trans (h j) (Nat.add_le_add_left hm _)
theorem GrowBy.of_drecs {s s' : S} (h : s'.drecs = s.drecs) : GrowBy s s' 0 := by
  intro j; simp [octLen, h]
theorem GrowBy.of_same {s s' : S} (h : SameOctets s s') : GrowBy s s' 0 := by
  intro j
  simp only [octLen]
  cases hd : s'.drecs[j]? with
  | none => exact Nat.zero_le _
  | some d' =>
    obtain ⟨d, h1, h2⟩ := h j d' hd
    rw [h1]; exact Nat.le_of_eq (congrArg List.length h2)

theorem setDrec_get (s : S) (k j : Nat) (f : DRec → DRec) :
    (setDrec s k f).drecs[j]? = if j = k then (s.drecs[j]?).map f else s.drecs[j]? := by
  simp only [setDrec, List.getElem?_mapIdx, beq_iff_eq]
  by_cases h : j = k
  · simp only [if_pos h]
  · simp only [if_neg h, Option.map_id']

theorem setDrec_rec {s : S} {k j : Nat} {f : DRec → DRec} {d' : DRec} (h : (setDrec s k f).drecs[j]? = some d') :
    ∃ d, s.drecs[j]? = some d ∧ (d' = d ∨ d' = f d) := by
  rw [setDrec_get] at h
  split at h
  · cases hs : s.drecs[j]? with
    | none => rw [hs] at h; cases h
    | some d0 => rw [hs] at h; cases h; exact ⟨d0, rfl, .inr rfl⟩
  · exact ⟨d', h, .inl rfl⟩

theorem setDrec_get_self {s : S} {k : Nat} {d : DRec} (h : s.drecs[k]? = some d) (f : DRec → DRec) :
    (setDrec s k f).drecs[k]? = some (f d) := by rw [setDrec_get, if_pos rfl, h]; rfl

theorem delivRunning_rec {s : S} {k : Nat} (h : delivRunning s k = true) : ∃ d, s.drecs[k]? = some d ∧ d.finished = false := by
  unfold delivRunning at h
  cases hs : s.drecs[k]? with
  | none => rw [hs] at h; cases h
  | some d => rw [hs] at h; exact ⟨d, rfl, by simpa using h⟩

theorem nne_setDrec (s : S) (k : Nat) (f : DRec → DRec) (hf : ∀ d, (f d).rdEnd = .eof → d.rdEnd = .eof) :
    NoNewEof s (setDrec s k f) := by
  intro j ⟨d', hd, he⟩
  obtain ⟨d, hs, rfl | rfl⟩ := setDrec_rec hd
  · exact ⟨_, hs, he⟩
  · exact ⟨d, hs, hf d he⟩

theorem so_setDrec (s : S) (k : Nat) (f : DRec → DRec) (hf : ∀ d, (f d).octets = d.octets) : SameOctets s (setDrec s k f) := by
  intro j d' hd
  obtain ⟨d, hs, rfl | rfl⟩ := setDrec_rec hd
  · exact ⟨_, hs, rfl⟩
  · exact ⟨d, hs, hf d⟩

theorem grow_setDrec (s : S) (k : Nat) (f : DRec → DRec) (m : Nat) (hf : ∀ d, (f d).octets.length ≤ d.octets.length + m) :
    GrowBy s (setDrec s k f) m := by
  intro j
  rw [octLen, octLen]
  cases hd : (setDrec s k f).drecs[j]? with
  | none => exact Nat.zero_le _
  | some d' =>
    obtain ⟨d, hs, rfl | rfl⟩ := setDrec_rec hd
    · rw [hs]; exact Nat.le_add_right _ _
    · rw [hs]; exact hf d

theorem drecs_append_fresh {s s' : S} {d : DRec} (h : s'.drecs = s.drecs ++ [d]) (ho : d.octets = []) (he : d.rdEnd ≠ .eof) :
    GrowBy s s' 0 ∧ NoNewEof s s' ∧ octLen s' s.drecs.length = 0 := by
  have hlt : ∀ {j}, j < s.drecs.length → s'.drecs[j]? = s.drecs[j]? := fun hj => by rw [h, List.getElem?_append_left hj]
  have heq : s'.drecs[s.drecs.length]? = some d := by rw [h, List.getElem?_concat_length]
  have hgt : ∀ {j}, s.drecs.length < j → s'.drecs[j]? = none := fun hj =>
    List.getElem?_eq_none (by rw [h, List.length_append]; exact hj)
  have hlen : octLen s' s.drecs.length = 0 := by rw [octLen, heq, Option.map_some, ho]; rfl
  refine ⟨fun j => ?_, fun j ⟨d', hd, hde⟩ => ?_, hlen⟩
  · rcases Nat.lt_trichotomy j s.drecs.length with hj | rfl | hj
    · rw [octLen, hlt hj]; exact Nat.le_refl _
    · rw [hlen]; exact Nat.zero_le _
    · rw [octLen, hgt hj]; exact Nat.zero_le _
  · rcases Nat.lt_trichotomy j s.drecs.length with hj | rfl | hj
    · exact ⟨d', hlt hj ▸ hd, hde⟩
    · rw [heq] at hd; cases hd; exact absurd hde he
    · rw [hgt hj] at hd; cases hd

/-- nothing was read from the connection and nothing handed to a delivery; `recv` and `bdat` are what the size accounting
    (`Acct.of_calm`) needs to know of the connection state across a step -/
structure Calm (s s' : S) : Prop where
  cfg : s'.cfg = s.cfg
  w : s'.w = s.w
  tlsW : s'.tlsW = s.tlsW
  oct : SameOctets s s'
  recv : s'.c.bytesReceived = s.c.bytesReceived ∨ s'.c.bytesReceived = 0
  bdat : s'.c.bdat = none ∨ (s'.c.bdat = s.c.bdat ∧ s'.c.bytesReceived = s.c.bytesReceived)

/-- … and no delivery was told that its message is complete: everything but the end of a LAST chunk -/
structure Quiet (s s' : S) : Prop extends Calm s s' where
  eof : NoNewEof s s'

theorem Calm.rfl' (s : S) : Calm s s := ⟨rfl, rfl, rfl, .rfl' s, .inl rfl, .inr ⟨rfl, rfl⟩⟩

theorem Calm.trans {a b c : S} (h1 : Calm a b) (h2 : Calm b c) : Calm a c := by
  refine ⟨h2.cfg.trans h1.cfg, h2.w.trans h1.w, h2.tlsW.trans h1.tlsW, h1.oct.trans h2.oct, ?_, ?_⟩
  · rcases h2.recv with e | e
    · rw [e]; exact h1.recv
    · exact .inr e
  · rcases h2.bdat with e | ⟨e1, e2⟩
    · exact .inl e
    · rcases h1.bdat with f | ⟨f1, f2⟩
      · exact .inl (e1.trans f)
      · exact .inr ⟨e1.trans f1, e2.trans f2⟩

theorem Calm.grow {s s' : S} (h : Calm s s') : GrowBy s s' 0 := .of_same h.oct

theorem Calm.bdat_none {s s' : S} (h : Calm s s') (hb : s.c.bdat = none) : s'.c.bdat = none := by
  rcases h.bdat with e | ⟨e, _⟩
  · exact e
  · exact e.trans hb

namespace Quiet

theorem rfl' (s : S) : Quiet s s := ⟨.rfl' s, .rfl' s⟩
theorem trans {a b c : S} (h1 : Quiet a b) (h2 : Quiet b c) : Quiet a c := ⟨h1.toCalm.trans h2.toCalm, h1.eof.trans h2.eof⟩

theorem of_eq {s s' : S} (h1 : s'.cfg = s.cfg := by rfl) (h2 : s'.w = s.w := by rfl) (h3 : s'.tlsW = s.tlsW := by rfl)
    (h4 : s'.drecs = s.drecs := by rfl) (h5 : s'.c.bytesReceived = s.c.bytesReceived := by rfl)
    (h6 : s'.c.bdat = s.c.bdat := by rfl) : Quiet s s' :=
  ⟨⟨h1, h2, h3, .of_drecs h4, .inl h5, .inr ⟨h6, h5⟩⟩, .of_drecs h4⟩

end Quiet

theorem quiet_emit (s : S) (e : Ev) : Quiet s (emit s e) := .of_eq
theorem quiet_setHelo (s : S) (d : Bytes) : Quiet s (setHelo s d) := .of_eq
theorem quiet_setBinarymime (s : S) (b : Bool) : Quiet s (setBinarymime s b) := .of_eq
theorem quiet_write (s : S) (bs : Bytes) : Quiet s (write s bs) := by unfold write; cases s.c.closed <;> exact .of_eq
theorem Wrote.quiet {n : Nat} {s s' : S} (h : Wrote n s s') : Quiet s s' := let ⟨_, _, e⟩ := h.eq; e ▸ .of_eq

theorem Popped.quiet {s s' : S} : Popped s s' → Quiet s s' := fun ⟨_, h⟩ => h ▸ .of_eq

theorem calm_setDrec (s : S) (k : Nat) (f : DRec → DRec) (ho : ∀ d, (f d).octets = d.octets) : Calm s (setDrec s k f) :=
  ⟨rfl, rfl, rfl, so_setDrec s k f ho, .inl rfl, .inr ⟨rfl, rfl⟩⟩

theorem calm_delivFinish (s : S) (k : Nat) (e : RdEnd) : Calm s (delivFinish s k e) := by
  unfold delivFinish
  dsimp only
  have h1 := calm_setDrec s k (fun d => { d with finished := true, rdEnd := e, ret := delivOutcome s k e }) (fun _ => rfl)
  split
  · exact h1.trans (quiet_emit _ _).toCalm
  · exact h1

theorem quiet_delivFinish (s : S) (k : Nat) (e : RdEnd) (he : e ≠ .eof) : Quiet s (delivFinish s k e) := by
  refine ⟨calm_delivFinish s k e, ?_⟩
  unfold delivFinish
  dsimp only
  have h1 := nne_setDrec s k (fun d => { d with finished := true, rdEnd := e, ret := delivOutcome s k e })
    (fun _ h => absurd h he)
  split
  · exact h1.trans (quiet_emit _ _).eof
  · exact h1

theorem quiet_delivAbort (s : S) (k : Nat) : Quiet s (delivAbort s k) := by
  unfold delivAbort
  split
  · exact quiet_delivFinish s k .reset (by decide)
  · exact .rfl' _

theorem delivWrite_recs (s : S) (k : Nat) (bs : Bytes) :
    GrowBy s (delivWrite s k bs).1 bs.length ∧ NoNewEof s (delivWrite s k bs).1 := by
  have h1 := grow_setDrec s k (fun d => { d with octets := d.octets ++ bs.take (delivTake s k bs) }) bs.length
    (fun d => by rw [List.length_append, List.length_take]; exact Nat.add_le_add_left (Nat.min_le_right _ _) _)
  have h2 := nne_setDrec s k (fun d => { d with octets := d.octets ++ bs.take (delivTake s k bs) }) (fun _ h => h)
  rcases delivWrite_cases s k bs with he | he | he <;> rw [he]
  · exact ⟨(GrowBy.rfl' s).mono (Nat.zero_le _), .rfl' s⟩
  · exact ⟨h1, h2⟩
  · have hq := quiet_delivFinish (setDrec s k fun d => { d with octets := d.octets ++ bs.take (delivTake s k bs) }) k .none
      (by decide)
    exact ⟨h1.trans hq.grow, h2.trans hq.eof⟩

theorem delivWrite_fields (s : S) (k : Nat) (bs : Bytes) : (delivWrite s k bs).1.cfg = s.cfg ∧ (delivWrite s k bs).1.c = s.c ∧
    (delivWrite s k bs).1.w = s.w ∧ (delivWrite s k bs).1.tlsW = s.tlsW := by
  rcases delivWrite_cases s k bs with he | he | he <;> rw [he]
  · exact ⟨rfl, rfl, rfl, rfl⟩
  · exact ⟨rfl, rfl, rfl, rfl⟩
  · have h := calm_delivFinish (setDrec s k fun d => { d with octets := d.octets ++ bs.take (delivTake s k bs) }) k .none
    exact ⟨h.cfg, delivFinish_c _ _ _, h.w, h.tlsW⟩

theorem quiet_abortBdat (s : S) : Quiet s (abortBdat s) := by
  unfold abortBdat
  split
  · have h := quiet_delivAbort s ‹Nat›
    generalize delivAbort s _ = x at h ⊢
    exact ⟨⟨h.cfg, h.w, h.tlsW, h.oct, .inl rfl, .inl rfl⟩, h.eof⟩
  · exact .rfl' _

theorem quiet_logoutSess (s : S) : Quiet s (logoutSess s) := by unfold logoutSess; split <;> exact .of_eq
theorem quiet_closeSock (s : S) : Quiet s (closeSock s) := by unfold closeSock; cases s.c.closed <;> exact .of_eq
theorem quiet_resetSess (s : S) : Quiet s (resetSess s) := by unfold resetSess; split <;> exact .of_eq

theorem quiet_closeConn (s : S) : Quiet s (closeConn s) :=
  ((quiet_abortBdat s).trans (quiet_logoutSess _)).trans (quiet_closeSock _)

theorem quiet_resetConn (s : S) : Quiet s (resetConn s) := by
  have h := (quiet_abortBdat s).trans (quiet_resetSess _)
  have hb : (resetSess (abortBdat s)).c.bdat = none := by rw [resetSess_c, abortBdat_c]
  unfold resetConn clearEnvelope
  generalize resetSess (abortBdat s) = x at h hb ⊢
  exact ⟨⟨h.cfg, h.w, h.tlsW, h.oct, .inr rfl, .inl hb⟩, h.eof⟩

theorem quiet_tlsUpgrade (s : S) : Quiet (switchWire s) (tlsUpgrade s) :=
  (quiet_logoutSess _).trans (Quiet.trans (b := forgetGreeting _) .of_eq (quiet_resetConn _))

theorem quiet_protocolErrorB (s : S) (code : Nat) (enh : Enh) (t : Bytes) : Quiet s (protocolErrorB s code enh t) := by
  unfold protocolErrorB
  dsimp only
  split
  · exact (quiet_write s (render code enh [t])).trans (Quiet.trans .of_eq ((quiet_write _ _).trans (quiet_closeConn _)))
  · exact (quiet_write s (render code enh [t])).trans .of_eq

theorem quiet_protocolError (s : S) (code : Nat) (enh : Enh) (t : String) : Quiet s (protocolError s code enh t) :=
  quiet_protocolErrorB s code enh t.b

theorem quiet_recoverPanic (p : S × Bool) : Quiet p.1 (recoverPanic p) := by
  unfold recoverPanic
  split
  · exact ((quiet_write _ _).trans (quiet_closeConn _)).trans (quiet_emit _ _)
  · exact .rfl' _

theorem quiet_newSession (s : S) (d : Bytes) : Quiet s (newSession s d).1 := by
  have hp := (popNs_popped s).quiet
  unfold newSession
  generalize popNs s = p at hp ⊢
  exact hp.trans .of_eq

theorem quiet_handleGreet (s : S) (e : Bool) (arg : Bytes) : Quiet s (handleGreet s e arg).1 := by
  rcases handleGreet_cases s e arg with ⟨_, _, h⟩ | ⟨d, _, ⟨_, h⟩ | ⟨_, h⟩⟩ <;> rw [h]
  · exact quiet_write _ _
  · exact (quiet_setHelo s d).trans ((quiet_resetConn _).trans (greetReply_wrote _ _ _).quiet)
  · have hn := (quiet_setHelo s d).trans (quiet_newSession _ d)
    split
    · exact hn.trans (greetReply_wrote _ _ _).quiet
    · exact hn
    · exact hn.trans ((quiet_setHelo _ []).trans (quiet_write _ _))

theorem Called.quiet {r : BRes} {s : S} {c' : Conn} {p : S × Bool} (h : Called r s c' p)
    (hb : c'.bdat = s.c.bdat := by rfl) (hr : c'.bytesReceived = s.c.bytesReceived := by rfl) : Quiet s p.1 := by
  cases h with
  | ok bs _ => exact Quiet.trans (.of_eq (h5 := hr) (h6 := hb)) (quiet_write _ bs)
  | panic _ => exact .rfl' s
  | err bs _ => exact quiet_write s bs

theorem quiet_handleMail (s : S) (arg : Bytes) : Quiet s (handleMail s arg).1 := by
  rcases handleMail_cases s arg with ⟨b, _, _, _, _, _, _, he⟩ | ⟨_, _, _, _, _, he⟩ | ⟨_, _, _, _, _, _, _, _, he⟩ <;> rw [he]
  · refine Quiet.trans ?_ (quiet_write _ _)
    cases b
    · exact .rfl' s
    · exact quiet_setBinarymime s false
  · exact quiet_setBinarymime s _
  · exact (quiet_setBinarymime s _).trans
      ((popMail_popped _).quiet.trans ((quiet_emit _ _).trans (mailCall_called _ _ _ _).quiet))

theorem quiet_handleRcpt (s : S) (arg : Bytes) : Quiet s (handleRcpt s arg).1 := by
  rcases handleRcpt_cases s arg with ⟨_, _, _, _, _, _, he⟩ | ⟨_, _, _, he⟩ | ⟨_, _, _, _, he⟩ | ⟨id, rcpt, opts, _, _, _, _, _, he⟩ <;> rw [he]
  · exact quiet_write _ _
  · exact quiet_write _ _
  · exact .rfl' _
  · exact (popRcpt_popped s).quiet.trans ((quiet_emit _ _).trans (rcptCall_called s id rcpt opts).quiet)

/-- how a synchronous delivery ends: record `k` is completed; then a panic escapes or the connection is closed, or the rest of
    the message is drained; what follows is quiet -/
def DataEnd (s : S) (k : Nat) (r1 : DataReader.DR) (octets : Bytes) (e : RdEnd) (p : S × Bool) : Prop :=
  ∃ ret, (Quiet (setDrec s k (endRec octets e ret)) p.1 ∧ (p.2 = true ∨ p.1.c.closed = true)) ∨
    Quiet (setW (setDrec s k (endRec octets e ret)) (drain (wireFuel s.w) r1 s.w)) p.1

theorem DataEnd.cfg {s : S} {k : Nat} {r1 : DataReader.DR} {octets : Bytes} {e : RdEnd} {p : S × Bool}
    (h : DataEnd s k r1 octets e p) : p.1.cfg = s.cfg := by
  obtain ⟨_, ⟨hq, _⟩ | hq⟩ := h
  · exact hq.cfg.trans (setDrec_cfg _ _ _)
  · exact hq.cfg.trans (setW_cfg _ _)

theorem dataFinish_end (s : S) (k : Nat) (r1 : DataReader.DR) (octets : Bytes) (e : RdEnd) (dec : DataDec) :
    DataEnd s k r1 octets e (dataFinish s k r1 octets e dec) := by
  obtain ⟨ret, x, h | ⟨hw, h⟩ | ⟨hw, h⟩⟩ := dataFinish_cases s k r1 octets e dec <;> rw [h] <;> refine ⟨ret, ?_⟩
  · exact .inl ⟨quiet_resetConn _, .inl rfl⟩
  · exact .inl ⟨(quiet_emit _ _).trans (hw.quiet.trans ((quiet_closeConn _).trans (quiet_resetConn _))),
      .inr (by rw [resetConn_c]; exact closeConn_closed _)⟩
  · exact .inr (hw.quiet.trans (quiet_resetConn _))

theorem dataSync_shape (s : S) (id : Nat) :
    DataEnd (setW (dataStart s id) (dataReads s).2.1) s.drecs.length (dataReads s).1 (dataReads s).2.2.1 (dataReads s).2.2.2
      (dataSync s id) := by
  rw [dataSync_eq]
  exact dataFinish_end _ _ _ _ _ _

theorem quiet_setBdatStatus (s : S) : Quiet s (setBdatStatus s) := let ⟨_, h⟩ := setBdatStatus_eq s; h ▸ .of_eq

/-- what the start of a chunk has done, `p` being the state reached and the delivery the chunk goes to -/
structure Begun (s : S) (p : S × Nat) : Prop where
  cfg : p.1.cfg = s.cfg
  w : p.1.w = s.w
  tlsW : p.1.tlsW = s.tlsW
  c : p.1.c = { s.c with bdat := some p.2 }
  grow : GrowBy s p.1 0
  eof : NoNewEof s p.1
  fresh : s.c.bdat = some p.2 ∨ octLen p.1 p.2 = 0

theorem Begun.quiet {s a x : S} {k : Nat} (h : Begun s (a, k)) (hq : Quiet a x) (hc : x.c = a.c) : Begun s (x, k) :=
  ⟨hq.cfg.trans h.cfg, hq.w.trans h.w, hq.tlsW.trans h.tlsW, hc.trans h.c, h.grow.trans hq.grow, h.eof.trans hq.eof,
    h.fresh.elim .inl fun f => .inr (Nat.le_zero.mp (f ▸ hq.grow k))⟩

/-- a running transfer is continued; else the delivery starts on a fresh, empty record (a backend that wants nothing returns
    at once) -/
theorem bdatBegin_frame (s : S) : Begun s (bdatBegin s) := by
  unfold bdatBegin
  split
  · rename_i k hk
    exact ⟨rfl, rfl, rfl, hk ▸ rfl, .rfl' s, .rfl' s, .inl hk⟩
  · dsimp only
    obtain ⟨be, hp⟩ := popData_popped s
    generalize (popData s).1 = dec
    rw [hp]
    obtain ⟨f1, f2, f3⟩ := drecs_append_fresh (s := s) (s' := (startDelivery { s with be := be } dec).1)
      (d := { k := s.drecs.length, sess := s.c.session.getD 0 }) rfl rfl (fun h => by cases h)
    -- `by rfl`: as a term, `rfl` has the unifier compare the two states field by field before it unfolds `startDelivery`, twice
    have h1 : Begun s (startDelivery { s with be := be } dec) := ⟨by rfl, by rfl, by rfl, by rfl, f1, f2, .inr f3⟩
    split
    · exact h1.quiet (quiet_delivFinish _ _ .none (by decide)) (delivFinish_c _ _ _)
    · exact h1

/-- a chunk that could not be copied: the rest of it is skipped; replies, possibly `Close`, the reset; the line limit comes back -/
theorem bdatFail_shape (s : S) (k left : Nat) (last : Bool) (err : BRes) :
    ∃ s', bdatFail s k left last err = (armLimit s', false) ∧ Quiet (setW s (discardN (wireFuel s.w) s.w left)) s' ∧
      s'.c.bdat = none := by
  unfold bdatFail
  dsimp only
  refine ⟨_, rfl, ?_, by rw [resetConn_c]⟩
  refine (bdatFailReplies_wrote _ k last err).quiet.trans (Quiet.trans ?_ (quiet_resetConn _))
  split
  · exact quiet_closeConn _
  · exact .rfl' _

/-- calm, not quiet: before the replies the pipe is closed, which is where a chunked delivery sees the end of its message -/
theorem calm_bdatFinal (s : S) (k : Nat) : Calm s (bdatFinal s k).1 := by
  have h0 : Calm s (if delivRunning s k then delivFinish s k .eof else s) := by
    split
    · exact calm_delivFinish _ _ _
    · exact .rfl' _
  obtain ⟨x, hw, h | h⟩ := bdatFinal_cases s k <;> rw [h]
  · exact h0.trans (hw.quiet.trans (quiet_closeConn _)).toCalm
  · exact h0.trans (hw.quiet.trans (quiet_resetConn _)).toCalm

end SmtpV.Server
