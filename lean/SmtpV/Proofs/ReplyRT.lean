import SmtpV.Model.Reply
import SmtpV.Model.Client
import SmtpV.Proofs.TextFacts
/-!
The server's reply rendering composed with the client's reply parsing (C17, model level): `Atoi` reads back `%d`,
the enhanced-code token, and the client's reading of the lines `writeResponse` puts on the wire, one or many.
-/
namespace SmtpV.ReplyRT
open SmtpV SmtpV.Text SmtpV.Spec SmtpV.Reply SmtpV.Client

theorem atoi_digits (s : Bytes) (hne : s ≠ []) (hs : s.all isDigit = true) :
    atoi s = if s.foldl (fun a (b : Byte) => a * 10 + (b.toNat - 48)) 0 ≤ 9223372036854775807
      then some ((s.foldl (fun a (b : Byte) => a * 10 + (b.toNat - 48)) 0 : Nat) : Int) else none := by
  obtain ⟨d, t, rfl⟩ := List.exists_cons_of_ne_nil hne
  have hd : isDigit d = true := (Bool.and_eq_true _ _ ▸ hs).1
  unfold atoi
  -- the last equation of the sign match; its hypotheses say that neither `45 :: _` nor `43 :: _` matches
  rw [atoi.match_1.eq_3]
  · simp only [hs, List.isEmpty_cons, Bool.false_or, Bool.not_true, Bool.false_eq_true, if_false]
  · exact fun _ e => absurd (List.cons.inj e).1 (ne_of_class hd)
  · exact fun _ e => absurd (List.cons.inj e).1 (ne_of_class hd)

theorem atoi_natToDec (n : Nat) (h : n ≤ 9223372036854775807) : atoi (natToDec n) = some (n : Int) := by
  rw [atoi_digits _ (natToDec_ne_nil n) (natToDec_digits n), natToDec_value, if_pos h]

theorem atoi_intToDec (i : Int) (h0 : 0 ≤ i) (h1 : i ≤ 9223372036854775807) : atoi (intToDec i) = some i := by
  rw [intToDec_nonneg i h0, atoi_natToDec _ (Int.toNat_le.mpr h1), Int.toNat_of_nonneg h0]

/-- an enhanced code as the server prints it: three non-negative int64 numbers -/
def EnhOk (e : Enh) : Prop :=
  0 ≤ e.a ∧ e.a ≤ 9223372036854775807 ∧ 0 ≤ e.b ∧ e.b ≤ 9223372036854775807 ∧ 0 ≤ e.c ∧ e.c ≤ 9223372036854775807

theorem enhBytes_ne (e : Enh) : ∀ x ∈ enhBytes e, x ≠ 32 ∧ x ≠ 10 := by
  have hi := intToDec_mem (P := fun x => x ≠ 32 ∧ x ≠ 10) (by decide) fun b h => ⟨ne_of_class h, ne_of_class h⟩
  have hdot : ∀ x ∈ ([46] : Bytes), x ≠ 32 ∧ x ≠ 10 := by decide
  exact List.forall_mem_append.mpr ⟨List.forall_mem_append.mpr ⟨List.forall_mem_append.mpr ⟨List.forall_mem_append.mpr
    ⟨hi _, hdot⟩, hi _⟩, hdot⟩, hi _⟩

theorem parseEnhancedCode_enhBytes (e : Enh) (h : EnhOk e) : parseEnhancedCode (enhBytes e) = some e := by
  obtain ⟨a0, a1, b0, b1, c0, c1⟩ := h
  have hnd : ∀ i : Int, 0 ≤ i → ∀ x ∈ intToDec i, x ≠ 46 := fun i hi x hx => by
    rw [intToDec_nonneg i hi] at hx
    exact ne_of_class (List.all_eq_true.mp (natToDec_digits _) x hx)
  have hs := splitByte_intercalate 46 [intToDec e.a, intToDec e.b, intToDec e.c] (List.cons_ne_nil _ _)
    (List.forall_mem_cons.mpr ⟨hnd _ a0, List.forall_mem_cons.mpr ⟨hnd _ b0,
      List.forall_mem_cons.mpr ⟨hnd _ c0, List.forall_mem_nil _⟩⟩⟩)
  have hj : List.intercalate [46] [intToDec e.a, intToDec e.b, intToDec e.c] = enhBytes e := by
    simp [List.intercalate, List.intersperse, enhBytes]
  unfold parseEnhancedCode
  rw [← hj, hs]
  simp only [atoi_intToDec _ a0 a1, atoi_intToDec _ b0 b1, atoi_intToDec _ c0 c1]

/-- the token in front of every text line: the enhanced code and a space -/
def tok (e : Enh) : Bytes := enhBytes e ++ [32]

/-- a continuation / final line as the server writes it (without CRLF) -/
def contLine (code : Nat) (e : Enh) (l : Bytes) : Bytes := natToDec code ++ 45 :: (tok e ++ l)
def lastLine (code : Nat) (e : Enh) (l : Bytes) : Bytes := natToDec code ++ 32 :: (tok e ++ l)

theorem textLines_single (msg : Bytes) : textLines [msg] = splitByte msg 10 := by
  simp [textLines, List.intercalate, List.intersperse, LF]

/-! ### `ReplaceAll("\n" + token, "\n")` -/

theorem replaceAll_skip (p : Byte) (old new : Bytes) (a : Bytes) (h : ∀ b ∈ a, b ≠ p) (fuel : Nat) (s : Bytes) :
    replaceAll (p :: old) new (fuel + a.length) (a ++ s) = a ++ replaceAll (p :: old) new fuel s := by
  induction a with
  | nil => rfl
  | cons c a ih =>
    have : (p :: old).isPrefixOf (c :: (a ++ s)) = false := by
      rw [List.isPrefixOf_cons_cons, beq_false_of_ne (Ne.symm (h c List.mem_cons_self)), Bool.false_and]
    simp only [List.length_cons, ← Nat.add_assoc, List.cons_append, replaceAll, this, Bool.false_eq_true, if_false]
    rw [ih (fun b hb => h b (List.mem_cons_of_mem _ hb))]

theorem replaceAll_strip (t : Bytes) (ls : List Bytes) (hls : ∀ l ∈ ls, ∀ b ∈ l, b ≠ 10) :
    ∀ (first : Bytes), (∀ b ∈ first, b ≠ 10) → ∀ k,
      replaceAll (10 :: t) [10] (k + (first ++ ls.flatMap fun l => 10 :: (t ++ l)).length)
        (first ++ ls.flatMap fun l => 10 :: (t ++ l)) = first ++ ls.flatMap fun l => 10 :: l := by
  induction ls with
  | nil =>
    intro first hf k
    rw [List.flatMap_nil, List.length_append, List.length_nil, Nat.add_zero, replaceAll_skip 10 t [10] first hf]
    cases k <;> rfl
  | cons l ls ih =>
    intro first hf k
    -- the fuel as `_ + 1 + first.length`: `replaceAll_skip` uses up the last summand, the match at LF the 1
    rw [List.flatMap_cons, List.cons_append, List.append_assoc, List.length_append, List.length_cons, List.length_append,
      Nat.add_comm first.length, ← Nat.add_assoc, ← Nat.add_assoc, ← Nat.add_assoc, replaceAll_skip 10 t [10] first hf]
    simp only [replaceAll, List.isPrefixOf_cons_cons_self, List.isPrefixOf_iff_prefix, List.prefix_append, if_true,
      List.length_cons, List.drop_succ_cons, List.drop_left, List.singleton_append]
    rw [ih (fun l' h' => hls l' (List.mem_cons_of_mem _ h')) l (hls l List.mem_cons_self), List.flatMap_cons, List.cons_append]

theorem toSMTPErr_wire (code : Nat) (e : Enh) (he : EnhOk e) (ls : List Bytes) (hne : ls ≠ [])
    (hls : ∀ l ∈ ls, ∀ b ∈ l, b ≠ 10) :
    toSMTPErr code (List.intercalate [10] (ls.map (tok e ++ ·))) =
      { code := code, enh := e, msg := List.intercalate [10] ls } := by
  obtain ⟨first, tl, rfl⟩ := List.exists_cons_of_ne_nil hne
  have hshape : List.intercalate [10] ((first :: tl).map (tok e ++ ·)) =
      enhBytes e ++ 32 :: (first ++ tl.flatMap fun l => 10 :: (tok e ++ l)) := by
    simp [intercalate_cons, tok, List.flatMap_map]
  have hpat : ([10] : Bytes) ++ enhBytes e ++ [32] = 10 :: tok e := by simp [tok]
  unfold toSMTPErr
  rw [hshape, cutByte_first _ _ 32 (fun x hx => (enhBytes_ne e x hx).1)]
  simp only [parseEnhancedCode_enhBytes e he, hpat]
  rw [Nat.add_comm _ 1,
    replaceAll_strip (tok e) tl (fun l hl => hls l (List.mem_cons_of_mem _ hl)) first (hls first List.mem_cons_self), intercalate_cons]

theorem parseCodeLine_wire (code : Nat) (h1 : 100 ≤ code) (h2 : code ≤ 999) (sep : Byte) (hsep : (sep == 32 || sep == 45) = true)
    (rest : Bytes) : parseCodeLine (natToDec code ++ sep :: rest) = some (code, sep == 45, rest) := by
  obtain ⟨a, b, c, hd, ha, hb, hc, hv⟩ := natToDec_code code h1 h2
  simp only [hd, List.cons_append, List.nil_append, parseCodeLine, hsep, ha, hb, hc, hv, Bool.and_self, ge_iff_le, h1,
    decide_true, if_true]

theorem readCont_wire (code : Nat) (h1 : 100 ≤ code) (h2 : code ≤ 999) (e : Enh) (mid : List Bytes) (last : Bytes)
    (rest : List Bytes) (acc : Bytes) :
    readCont code (mid.map (contLine code e) ++ lastLine code e last :: rest) acc =
      some (acc ++ (mid ++ [last]).flatMap fun l => 10 :: (tok e ++ l), rest) := by
  induction mid generalizing acc with
  | nil =>
    simp [readCont, lastLine, parseCodeLine_wire code h1 h2 32 rfl]
  | cons l mid ih =>
    simp only [List.map_cons, List.cons_append, readCont, contLine, parseCodeLine_wire code h1 h2 45 rfl,
      bne_self_eq_false, Bool.false_eq_true, if_false, beq_self_eq_true, if_true, ih]
    simp

/-- **the client reads what `writeResponse` wrote**, one line or many -/
theorem readResponse_wire (expect code : Nat) (h1 : 100 ≤ code) (h2 : code ≤ 999) (e : Enh) (mid : List Bytes)
    (last : Bytes) (rest : List Bytes) :
    readResponse expect (mid.map (contLine code e) ++ lastLine code e last :: rest) =
      (if codeMatches expect code then .ok code (List.intercalate [10] ((mid ++ [last]).map (tok e ++ ·)))
       else .smtpErr (toSMTPErr code (List.intercalate [10] ((mid ++ [last]).map (tok e ++ ·)))), rest) := by
  cases mid with
  | nil =>
    simp [readResponse, lastLine, parseCodeLine_wire code h1 h2 32 rfl, List.intercalate]
  | cons first mid =>
    simp only [List.map_cons, List.cons_append, readResponse, contLine, parseCodeLine_wire code h1 h2 45 rfl,
      beq_self_eq_true, Bool.not_true, Bool.false_eq_true, if_false, readCont_wire code h1 h2 e mid last rest,
      intercalate_cons, List.flatMap_map]

end SmtpV.ReplyRT

namespace SmtpV.Props.C17
open SmtpV SmtpV.Text SmtpV.Spec SmtpV.Reply SmtpV.Client SmtpV.ReplyRT

/-- the text line a one-line reply puts on the wire (without CRLF) -/
def wireLine (code : Nat) (e : Enh) (msg : Bytes) : Bytes := natToDec code ++ [32] ++ enhBytes e ++ [32] ++ msg

/-- the lines `writeResponse` puts on the wire for the text lines `ls` (without CRLF) -/
def wireLines (code : Nat) (e : Enh) (ls : List Bytes) : List Bytes :=
  ls.dropLast.map (contLine code e) ++ (match ls.getLast? with | some l => [lastLine code e l] | none => [])

theorem wireLines_concat (code : Nat) (e : Enh) (mid : List Bytes) (last : Bytes) :
    wireLines code e (mid ++ [last]) = mid.map (contLine code e) ++ [lastLine code e last] := by
  simp [wireLines]

theorem wireLines_single (code : Nat) (e : Enh) (msg : Bytes) : wireLines code e [msg] = [wireLine code e msg] := by
  simp [wireLines, lastLine, wireLine, tok]

theorem EnhOk_ne_noEnh (e : Enh) (h : EnhOk e) : (e == noEnh) = false :=
  beq_false_of_ne fun e0 => by subst e0; exact absurd h.1 (by decide)

theorem renderLine_tok (code : Nat) (sep : Byte) (e : Enh) (he : EnhOk e) :
    renderLine code sep e = fun l => (natToDec code ++ sep :: (tok e ++ l)) ++ crlf := by
  funext l; simp [renderLine, EnhOk_ne_noEnh e he, tok, SP]

theorem render_wire (code : Nat) (enh : Enh) (texts : List Bytes) (he : EnhOk (effEnh code enh)) :
    render code enh texts = (wireLines code (effEnh code enh) (textLines texts)).flatMap (· ++ crlf) := by
  simp only [render, wireLines, List.flatMap_append, List.flatMap_map, renderLine_tok _ _ _ he]
  cases (textLines texts).getLast? with
  | none => rfl
  | some l => rw [List.flatMap_singleton]; rfl

end SmtpV.Props.C17
