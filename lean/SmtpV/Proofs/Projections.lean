import SmtpV.Proofs.ByteEq
import SmtpV.Spec.Order
import SmtpV.Spec.Monitors
/-!
The per-property monitors that judge implementation traces (`Mon.check3` for C03, `Mon.check8` for C08) are projections of the
ordering monitor: whatever `Order.run` accepts, they accept, so the theorem about the ordering monitor is a theorem about the
very judges run on the implementation.  The trace the driver prints has no `cmd` and `tlsStart` events: events at which a
monitor stays where it is, or rejects, may be dropped from a trace it accepts (`runMon_filter`).
-/
namespace SmtpV.Spec
open SmtpV SmtpV.Spec.Order SmtpV.Spec.Mon

theorem Order.check_eq_runMon (cfg : Cfg) (evs : List Ev) (a : A) :
    Order.check cfg a evs = runMon (Order.step cfg) Order.fin a evs := by
  induction evs generalizing a with
  | nil => rfl
  | cons e t ih =>
    unfold Order.check at ih ⊢
    simp only [Order.run, runMon]
    cases Order.step cfg a e with
    | ok a1 => exact ih a1
    | error r => rfl

theorem runMon_proj {σ τ : Type} (p : σ → τ) {stepA : σ → Ev → Except String σ} {stepB : τ → Ev → Except String τ}
    {finA : σ → List String} {finB : τ → List String}
    (hstep : ∀ {a a1 e}, stepA a e = .ok a1 → stepB (p a) e = .ok (p a1)) (hfin : ∀ a, finA a = [] → finB (p a) = [])
    (evs : List Ev) (a : σ) (h : runMon stepA finA a evs = []) : runMon stepB finB (p a) evs = [] := by
  induction evs generalizing a with
  | nil => exact hfin a h
  | cons e t ih =>
    simp only [runMon] at h ⊢
    split at h
    · next a1 hs => rw [hstep hs]; exact ih a1 h
    · cases h

theorem runMon_filter {σ : Type} (v : Ev → Bool) (step : σ → Ev → Except String σ) (fin : σ → List String)
    (hid : ∀ m e, v e = false → step m e = .ok m ∨ ∃ r, step m e = .error r) :
    ∀ (evs : List Ev) (m : σ), runMon step fin m evs = [] → runMon step fin m (evs.filter v) = [] := by
  intro evs
  induction evs with
  | nil => intro m h; exact h
  | cons e t ih =>
    intro m h
    simp only [runMon] at h
    cases hv : v e with
    | true =>
      simp only [List.filter_cons, hv, if_true, runMon]
      cases hs : step m e with
      | error r => simp [hs] at h
      | ok m' => simp only [hs] at h ⊢; exact ih m' h
    | false =>
      simp only [List.filter_cons, hv, Bool.false_eq_true, if_false]
      rcases hid m e hv with hok | ⟨r, herr⟩
      · rw [hok] at h; exact ih m h
      · rw [herr] at h; simp at h

def p8 (a : A) : M8 := { live := a.live, nextId := a.nextId, closed := a.closed }

theorem step_sim8 {cfg : Cfg} {a a1 : A} {e : Ev} (h : Order.step cfg a e = .ok a1) : step8 (p8 a) e = .ok (p8 a1) := by
  replace h := (step_ok.1 h).2
  cases e <;> simp [step8, p8, h]

theorem check8_of_order {cfg : Cfg} {a : A} {evs : List Ev} (h : Order.check cfg a evs = []) :
    runMon step8 fin8 (p8 a) evs = [] :=
  runMon_proj p8 step_sim8 (fun a h => by cases hl : a.live <;> cases hc : a.closed <;> simp_all [Order.fin, fin8, p8]) evs a (Order.check_eq_runMon cfg evs a ▸ h)

/-- with nobody logged in, the initial state whatever the transaction fields hold: at a refused `NewSession` the ordering monitor
    clears them and `step3` stays where it is -/
def p3 (a : A) : M3 :=
  if a.live.isSome then { sess := a.live, mailOk := a.mailOk, nrcpt := a.nrcpt, transfer := a.transfer } else {}

theorem step_sim3 {cfg : Cfg} {a a1 : A} {e : Ev} (h : Order.step cfg a e = .ok a1) : step3 cfg (p3 a) e = .ok (p3 a1) := by
  replace h := (step_ok.1 h).2
  cases e <;> simp [step3, p3, h]
  case rcpt =>
    obtain ⟨-, -, -, hmax, -⟩ := h
    rw [if_neg (by omega)]; split <;> simp [*]
  all_goals split <;> simp [*]

theorem check3_of_order {cfg : Cfg} {a : A} {evs : List Ev} (h : Order.check cfg a evs = []) :
    runMon (step3 cfg) (fun _ => []) (p3 a) evs = [] :=
  runMon_proj p3 step_sim3 (fun _ _ => rfl) evs a (Order.check_eq_runMon cfg evs a ▸ h)

end SmtpV.Spec
