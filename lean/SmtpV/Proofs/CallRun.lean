import SmtpV.Proofs.ClientLines
import SmtpV.Props.C15
/-!
Whole calls of the client model as runs (C15): every call but the message-body calls (DATA, writes, Close) is the implicit
hello followed by the call's own command lines, none of which contains CR or LF.  Auth sends the AUTH line — the mechanism
name is refused when it contains CR or LF (client.go, repaired) — then one base64 response or the cancel token `*` per round.
-/
namespace SmtpV.Client
open SmtpV SmtpV.Text SmtpV.OneLine

def IsLine (l : Bytes) : Prop := ∃ x, l = x ++ crlf ∧ NoNL x

/-- the calls that send a command (everything but the message-body writes, DATA and AUTH) -/
def Call.simple : Call → Bool
  | .hello _ | .verify _ | .mail _ _ | .rcpt _ _ | .reset | .noop | .quit | .ext _ => true
  | _ => false

theorem helloLines_NoNL {c : C} (hn : validLine c.localName = true) {l : Bytes} (h : l ++ crlf ∈ helloLines c) : NoNL l := by
  have hc := validLine_NoNL _ hn
  simp only [helloLines, List.mem_cons, List.append_cancel_right_eq, List.not_mem_nil, or_false] at h
  rcases h with e | e <;> rw [e]
  · refine NoNL_append.mpr ⟨?_, hc⟩
    cases c.lmtp <;> exact by decide +kernel
  · exact NoNL_append.mpr ⟨by decide +kernel, hc⟩

theorem authLoop_run (fuel : Nat) (c : C) (r : RR) (steps : List (Option (Option Bytes))) (seen : List String) :
    Run Calm NoNL c fuel (authLoop fuel c r steps seen).1 := by
  have one {c c1 : C} {r : RR} {k : Nat} {l : Bytes} (n : Nat) (hl : NoNL l) (h : c.cmd k l = (c1, r)) :
      Run Calm NoNL c (n + 1) c1 := by
    have h1 := ((Run.nil (Q := Calm) c 0).cmd k hl).le (Nat.le_add_left 1 n)
    rwa [h] at h1
  fun_induction authLoop fuel c r steps seen with
  | case1 c => exact .nil c 0   -- no fuel
  -- the loop ends where it stands: the caller answers the challenge with nil; 235; a reply that is not `ok`
  | case4 | case6 | case8 => exact .nil _ _
  -- `*` is sent and the loop ends: the challenge is not base64; the caller's step fails; a code other than 334 and 235
  | case2 | case3 | case7 => exact one _ (l := [42]) (by decide) ‹_›
  -- the caller's response is sent and the loop goes round
  | case5 fuel c _ _ _ _ _ _ _ _ _ resp c1 r h _ ih => exact ((one 0 (b64Encode_NoNL resp) h).trans ih).le (by omega)

/-- a bound on the lines a call sends itself, the implicit hello apart: for Auth the AUTH line and one in each of the
    `steps.length + 2` rounds `C.call` gives `authLoop`; `none` for the calls that handle the message body -/
def Call.ownLines : Call → Option Nat
  | .data | .lmtpData | .write _ | .close _ => none
  | .auth _ _ steps => some (steps.length + 3)
  | _ => some 1

theorem Call.simple_eq (k : Call) : k.simple = (k.ownLines == some 1) := by cases k <;> rfl

theorem oneCmd_NoNL {k : Call} {p : OneCmd} (h : k.oneCmd = some p) {c c1 : C} {l : Bytes} (hp : p.pre c = true)
    (hl : p.line c1 = some l) : NoNL l := by
  cases k <;> cases h
  case verify a => exact NoNL_some (NoNL_append.mpr ⟨by decide +kernel, validLine_NoNL a hp⟩) hl
  case mail frm o => exact Props.C15.C15_mail_one_line c1.ext frm o l hl
  case rcpt to o => exact Props.C15.C15_rcpt_one_line c1.ext to o l hl
  all_goals exact NoNL_some (by decide +kernel) hl

theorem oneCmd_calm {k : Call} {p : OneCmd} {m : Nat} (h : k.oneCmd = some p) (hk : k.ownLines = some m) :
    m = 1 ∧ ∀ c, Calm c (p.upd c) := by
  cases k <;> cases h <;> cases hk
  case quit => exact ⟨rfl, fun _ => { closed := fun _ => rfl }⟩
  all_goals exact ⟨rfl, fun _ => {}⟩

/-- The host name's cleanness stands inside the line predicate, not before the theorem: what a run respects whatever its
    lines are (`Run.sealed`) is read off without it, and `call_lines` discharges it. -/
theorem call_run (c0 : C) (k : Call) (m : Nat) (hk : k.ownLines = some m) :
    Run Calm (fun l => validLine c0.localName = true → NoNL l) { c0 with out := c0.carry, carry := [] }
      (helloBudget c0 + m) (c0.call k).1 ∧ (c0.call k).2.written = (c0.call k).1.out := by
  cases ho : k.oneCmd with
  | some p =>
    obtain ⟨rfl, hu⟩ := oneCmd_calm ho hk
    rw [call_oneCmd ho]
    obtain ⟨c1, hr, h | ⟨e, h⟩⟩ := p.run_spec (L := fun l => validLine c0.localName = true → NoNL l)
      { c0 with out := c0.carry, carry := [] } report (fun l hl hn => helloLines_NoNL hn hl) (fun hp _ _ hl _ => oneCmd_NoNL ho hp hl)
    · rw [h]; exact ⟨(hr.calm fun _ => id).quiet (hu c1), rfl⟩
    · rw [h]; exact ⟨hr.calm fun _ => id, rfl⟩
  | none =>
    -- Hello, Extension and Auth: the hello — a run within the start's budget from any state with that budget and a host name
    -- as clean as the start's (`hh`) — then Auth's own lines
    have hh : ∀ c : C, helloBudget c = helloBudget c0 → (validLine c0.localName = true → validLine c.localName = true) →
        Run Calm (fun l => validLine c0.localName = true → NoNL l) c (helloBudget c0) c.hello.1 := by
      intro c e1 e2
      rw [← e1]
      exact (hello_run c).calm fun l hl hn => helloLines_NoNL (e2 hn) hl
    have hb : helloBudget { c0 with out := c0.carry, carry := [] } = helloBudget c0 := rfl
    have hh0 := hh { c0 with out := c0.carry, carry := [] } rfl id
    have h0 : Run Calm (fun l => validLine c0.localName = true → NoNL l) { c0 with out := c0.carry, carry := [] } 0 _ := .nil _ _
    unfold C.call
    generalize ({ c0 with out := c0.carry, carry := [] } : C) = c at hh0 hb h0 ⊢
    cases k with
    | write _ | close _ => cases hk
    | hello name =>
      cases hk
      simp only []
      cases hv : validLine name with
      | false => exact ⟨.nil c _, rfl⟩
      | true =>
        rw [if_neg nofun]
        by_cases hd : c.didHello = true
        · rw [if_pos hd]; exact ⟨.nil c _, rfl⟩
        · rw [if_neg hd]
          have h2 := hh { c with localName := name } hb fun _ => hv
          exact ⟨((h0.quiet (c2 := { c with localName := name }) { name := fun _ => hv }).trans h2).le (by omega), rfl⟩
    | ext name =>
      cases hk
      simp only []
      generalize c.hello = p at hh0 ⊢
      obtain ⟨c1, _ | e⟩ := p
      · dsimp only
        split <;> exact ⟨hh0.le (Nat.le_add_right _ _), rfl⟩
      · exact ⟨hh0.le (Nat.le_add_right _ _), rfl⟩
    | auth mech ir steps =>
      cases hk
      clear ho
      simp only []
      generalize c.hello = p at hh0 ⊢
      obtain ⟨c1, _ | e⟩ := p
      · dsimp only
        cases hv : validLine mech with
        | false => exact ⟨hh0.le (Nat.le_add_right _ _), rfl⟩
        | true =>
          rw [if_neg nofun]
          have hr : NoNL (match ir with | none => ([] : Bytes) | some r => if r.isEmpty then [61] else Server.b64Encode r) := by
            cases ir with
            | none => exact NoNL_nil
            | some r =>
              dsimp only
              split
              · exact by decide
              · exact b64Encode_NoNL r
          have h2 := hh0.cmd 0 fun _ => NoNL_trimSpace _ (NoNL_append.mpr ⟨NoNL_append.mpr ⟨NoNL_append.mpr
            ⟨(by decide +kernel : NoNL "AUTH ".b), validLine_NoNL mech hv⟩, (by decide : NoNL [32])⟩, hr⟩)
          generalize c1.cmd 0 _ = q at h2 ⊢
          obtain ⟨c2, r⟩ := q
          have h3 := h2.trans ((authLoop_run (steps.length + 2) c2 r steps []).mono (fun _ _ => id) fun _ h _ => h)
          generalize authLoop (steps.length + 2) c2 r steps [] = z at h3 ⊢
          obtain ⟨c3, e3, seen⟩ := z
          exact ⟨h3.le (by omega), rfl⟩
      · exact ⟨hh0.le (Nat.le_add_right _ _), rfl⟩
    | _ => cases ho

theorem call_lines (c : C) (k : Call) (m : Nat) (hk : k.ownLines = some m) (hi : Idle c) (hn : validLine c.localName = true) :
    ∃ ls : List Bytes, (c.call k).2.written = c.carry ++ ls.flatten ∧ ls.length ≤ helloBudget c + m ∧
      (∀ l ∈ ls, IsLine l) ∧ Idle (c.call k).1 ∧ validLine (c.call k).1.localName = true := by
  obtain ⟨h1, h2⟩ := call_run c k m hk
  have h := (h1.mono (fun _ _ => id) fun _ h => h hn).lines (c := { c with out := c.carry, carry := [] }) hi
  obtain ⟨ls, e, n, hl⟩ := h.out
  refine ⟨ls, by rw [h2, e], n, fun l h => ?_, h.idle, ?_⟩
  · obtain ⟨x, hx, rfl⟩ := hl l h; exact ⟨x, rfl, hx⟩
  · exact (h1.mono (fun _ _ => id) fun _ h => h hn).name hn

end SmtpV.Client
