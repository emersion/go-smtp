import SmtpV.Proofs.ByteEq
import SmtpV.Spec.Data
/-!
The executable line splitter `Spec.takeLine` finds the first line in the sense of `Spec.IsLine`, and what the recogniser
`Spec.scan` accepts is `Spec.Terminated`; that it accepts every such stream goes through the reader (`Proofs/DataOnlyMarker.lean`).
-/
namespace SmtpV.DataReader
open SmtpV SmtpV.Spec

theorem NoCRLF_tail {c : Byte} {u : Bytes} (h : NoCRLF (c :: u)) : NoCRLF u := by
  intro hh; exact h (hh.trans (List.infix_cons (List.infix_refl _)))

theorem NoCRLF_head {u : Bytes} (h : NoCRLF (CR :: u)) : u.head? ≠ some LF := by
  intro hh
  cases u with
  | nil => simp at hh
  | cons d u =>
    simp at hh; subst hh
    exact h ⟨[], u, by simp⟩

end SmtpV.DataReader

namespace SmtpV.Spec
open SmtpV

theorem NoCRLF_cons_of {a : Byte} {u : Bytes} (h1 : ¬ [CR, LF] <+: a :: u) (h2 : NoCRLF u) :
    NoCRLF (a :: u) := by
  intro hh
  rcases List.infix_cons_iff.mp hh with h | h
  · exact h1 h
  · exact h2 h

theorem takeLine_none (s : Bytes) (h : takeLine s = none) : NoCRLF s := by
  fun_induction takeLine s with
  | case1 => simp [NoCRLF]
  | case2 a => intro hh; have := hh.length_le; simp at this
  | case3 a b t hab => simp at h
  | case4 a b t hab l r hr ih => simp at h
  | case5 a b t hab hr ih =>
    refine NoCRLF_cons_of (fun ⟨x, hx⟩ => hab ?_) (ih hr)
    simp at hx; exact ⟨hx.1.symm, hx.2.1.symm⟩

theorem takeLine_spec (s l r : Bytes) (h : takeLine s = some (l, r)) : s = l ++ r ∧ IsLine l := by
  fun_induction takeLine s generalizing l r with
  | case1 => simp at h
  | case2 a => simp at h
  | case3 a b t hab =>
    obtain ⟨rfl, rfl⟩ := hab
    simp only [Option.some.injEq, Prod.mk.injEq] at h
    obtain ⟨rfl, rfl⟩ := h
    exact ⟨rfl, [], rfl, fun hh => by have := hh.length_le; simp at this⟩
  | case4 a b t hab l1 r1 hr ih =>
    simp only [Option.some.injEq, Prod.mk.injEq] at h
    obtain ⟨rfl, rfl⟩ := h
    obtain ⟨hs, t1, rfl, hn1⟩ := ih l1 r1 hr
    refine ⟨by rw [hs]; rfl, a :: t1, rfl, NoCRLF_cons_of (fun ⟨x, hx⟩ => hab ?_) hn1⟩
    -- the octet after `a` is `b`, in `t1 ++ [CR]` as in the stream
    cases t1 with
    | nil => simp at hx; exact absurd hx.2.1 (by decide)
    | cons c t1 =>
      simp only [List.cons_append, List.nil_append, List.append_eq, List.cons.injEq] at hs hx
      exact ⟨hx.1.symm, hs.1.trans hx.2.1.symm⟩
  | case5 a b t hab hr ih => simp at h

theorem takeLine_line (l x : Bytes) (hl : IsLine l) : takeLine (l ++ x) = some (l, x) := by
  obtain ⟨t, rfl, hn⟩ := hl
  induction t with
  | nil => simp [takeLine]
  | cons a t ih =>
    have ih := ih (DataReader.NoCRLF_tail hn)
    cases t with
    | nil => simp [takeLine, show CR ≠ LF by decide]
    | cons c t =>
      have hab : ¬ (a = CR ∧ c = LF) := fun ⟨ha, hc⟩ => by
        subst ha hc; exact DataReader.NoCRLF_head hn rfl
      simp only [List.cons_append, takeLine, hab, if_false] at ih ⊢
      rw [ih]

theorem scan_sound (fuel : Nat) (s body rest : Bytes) (h : scan fuel s = some (body, rest)) :
    Terminated s body rest := by
  fun_induction scan fuel s generalizing body with
  | case1 => simp at h
  | case2 fuel s ht => simp at h
  | case3 fuel s r ht =>
    simp only [Option.some.injEq, Prod.mk.injEq] at h
    obtain ⟨rfl, rfl⟩ := h
    exact ⟨[], by simp [(takeLine_spec s _ _ ht).1], List.forall_mem_nil _, rfl⟩
  | case4 fuel s l r ht hm b' r' hsc ih =>
    simp only [Option.some.injEq, Prod.mk.injEq] at h
    obtain ⟨rfl, rfl⟩ := h
    obtain ⟨hs, hl⟩ := takeLine_spec s l r ht
    obtain ⟨ls, hls, hall, hb⟩ := ih b' hsc
    exact ⟨l :: ls, by simp [hs, hls], List.forall_mem_cons.mpr ⟨⟨hl, hm⟩, hall⟩, by rw [hb]; rfl⟩
  | case5 fuel s l r ht hm hsc ih => simp at h

end SmtpV.Spec
