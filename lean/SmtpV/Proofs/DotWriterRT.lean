import SmtpV.Model.DotWriter
import SmtpV.Spec.ClientMon
import SmtpV.Proofs.DataReader
/-!
The client's dot-writer composed with the DATA reader (C16, model level): for a body in which CR occurs only in CRLF, written in
any partition, the reader delivers the normalised body from what the writer puts on the wire (`write_sim`), then the final line
break and the end of the data from what `Close` adds (`run_wclose`).
-/
namespace SmtpV.DotWriter
open SmtpV SmtpV.DataReader SmtpV.Spec

theorem write_append (s : WSt) (a b : Bytes) :
    write s (a ++ b) = ((write (write s a).1 b).1, (write s a).2 ++ (write (write s a).1 b).2) := by
  induction a generalizing s with
  | nil => simp [write]
  | cons c a ih => simp [write, ih, List.append_assoc]

theorem fold_write (parts : List Bytes) (s : WSt) (o : Bytes) :
    parts.foldl (fun (acc : WSt × Bytes) p => ((write acc.1 p).1, acc.2 ++ (write acc.1 p).2)) (s, o) =
      ((write s parts.flatten).1, o ++ (write s parts.flatten).2) := by
  induction parts generalizing s o with
  | nil => simp [write]
  | cons p ps ih => simp [ih, write_append, List.append_assoc]

theorem writeAll_flatten (parts : List Bytes) :
    writeAll parts = (write .begin_ parts.flatten).2 ++ wclose (write .begin_ parts.flatten).1 :=
  congrArg (fun x => x.2 ++ wclose x.1) (fold_write parts .begin_ [])

/-- every CR (`prev` too, if it is one) is followed by LF -/
def ok : Byte → Bytes → Bool
  | prev, [] => prev != CR
  | prev, c :: t => (prev != CR || c == LF) && ok c t

theorem crOk_eq_ok (body : Bytes) : ClientMon.crOk body = ok 0 body := by
  unfold ClientMon.crOk
  -- `crOk` pairs every octet with the one behind it (0 behind the last); with the octet in front as a parameter that is `ok`
  suffices h : ∀ (prev : Byte) (body : Bytes),
      (((prev :: body).zip (body ++ [0])).all (fun p => p.1 != 13 || p.2 == 10)) = ok prev body by
    cases body with
    | nil => simp [ok, CR]
    | cons c t =>
      have := h c t
      simp only [List.drop_succ_cons, List.drop_zero] at *
      simp [ok, CR, LF, this]
  intro prev body
  induction body generalizing prev with
  | nil => simp [ok, CR]
  | cons c t ih =>
    have := ih c
    simp only [List.cons_append, List.zip_cons_cons, List.all_cons, this]
    simp [ok, CR, LF]

def rdOf : WSt → St
  | .cr => .cr
  | .data => .data
  | _ => .bol

theorem wstep_eq (w : WSt) (c : Byte) (hw : w ≠ .cr) :
    wstep w c = (if c = CR then .cr else if c = LF then .beginLine else .data,
      (if w ≠ .data ∧ c = DOT then [DOT] else []) ++ (if c = LF then [CR, LF] else [c])) := by
  cases w with
  | cr => exact absurd rfl hw
  | begin_ | beginLine | data =>
    simp only [wstep, beq_iff_eq]; by_cases h1 : c = CR <;> by_cases h2 : c = LF <;> simp [h1, h2]

theorem feed_stuffed (w : WSt) (c : Byte) (t : Bytes) (hw : w ≠ .cr) :
    feed (rdOf w) ((if w ≠ .data ∧ c = DOT then [DOT] else []) ++ c :: t) = feed .data (c :: t) := by
  by_cases hd : w = .data
  · subst hd; simp [rdOf]
  have : rdOf w = .bol := by
    cases w with
    | cr => exact absurd rfl hw
    | data => exact absurd rfl hd
    | begin_ | beginLine => rfl
  rw [this]
  by_cases hc : c = DOT
  · subst hc; simp [hd, feed_bol_dot, feed_dot]
  · simp [hc, feed_bol c t hc]

/-- shape of the normalised text produced so far, by writer state -/
def Inv (w : WSt) (acc : Bytes) : Prop :=
  match w with
  | .begin_ => acc = []
  | .beginLine => ∃ t, acc = t ++ [CR, LF]
  | .data => ∃ t x, acc = t ++ [x] ∧ x ≠ LF
  | .cr => ∃ t, acc = t ++ [CR]

def outOf (prev c : Byte) : Bytes := if c == 10 && prev != 13 then [13, 10] else [c]

theorem lfToCrlf_cons (prev c : Byte) (t : Bytes) :
    ClientMon.lfToCrlf prev (c :: t) = outOf prev c ++ ClientMon.lfToCrlf c t := by
  simp only [ClientMon.lfToCrlf, outOf]; split <;> simp

theorem step_sim (w : WSt) (prev c : Byte) (acc : Bytes) (hp : prev = CR ↔ w = .cr) (hI : Inv w acc)
    (hok : prev = CR → c = LF) :
    feed (rdOf w) (wstep w c).2 = (rdOf (wstep w c).1, outOf prev c) ∧ (c = CR ↔ (wstep w c).1 = .cr) ∧
      Inv (wstep w c).1 (acc ++ outOf prev c) := by
  -- after a CR only LF can come (`hok`); elsewhere `wstep_eq` says what is written and `feed_stuffed` that the reader undoes
  -- the stuffing, so that only the octet itself (a bare LF as CRLF) is left to follow through
  by_cases hw : w = .cr
  · obtain rfl := hok (hp.mpr hw)
    obtain rfl := hp.mpr hw
    subst hw
    obtain ⟨t, rfl⟩ := hI
    exact ⟨by simp [wstep, feed, step, outOf, rdOf, CR, LF], by simp [wstep, CR, LF], t, by simp [outOf, CR, LF]⟩
  have hp' : (prev != 13) = true := by simpa [CR] using mt hp.mp hw
  rw [wstep_eq w c hw]
  by_cases h2 : c = LF
  · subst h2
    have := feed_stuffed w CR [LF] hw
    simp only [cr_eq_dot, and_false, if_false, List.nil_append] at this
    simp only [lf_eq_dot, lf_eq_cr, and_false, if_false, if_true, List.nil_append, this]
    exact ⟨by simp [feed, step, rdOf, outOf, hp', CR, LF], by simp, acc, by simp [outOf, hp', CR, LF]⟩
  · have h2' : (c == 10) = false := by simpa [LF] using h2
    have ho : outOf prev c = [c] := by simp [outOf, h2']
    simp only [h2, if_false, ho]
    refine ⟨?_, by by_cases h1 : c = CR <;> simp [h1], ?_⟩
    · rw [feed_stuffed w c [] hw]
      by_cases h1 : c = CR <;> simp [h1, feed, step, rdOf]
    · by_cases h1 : c = CR
      · simp only [h1, if_true]; exact ⟨acc, rfl⟩
      · simp only [h1, if_false]; exact ⟨acc, c, rfl, h2⟩

theorem write_sim (body : Bytes) : ∀ (w : WSt) (prev : Byte) (acc : Bytes), (prev = CR ↔ w = .cr) → Inv w acc →
    ok prev body = true →
    feed (rdOf w) (write w body).2 = (rdOf (write w body).1, ClientMon.lfToCrlf prev body) ∧
      (write w body).1 ≠ .cr ∧ Inv (write w body).1 (acc ++ ClientMon.lfToCrlf prev body) := by
  induction body with
  | nil =>
    intro w prev acc hp hI hok
    exact ⟨rfl, fun h => by simp [ok, hp.mpr h] at hok, by simpa [write, ClientMon.lfToCrlf] using hI⟩
  | cons c t ih =>
    intro w prev acc hp hI hok
    simp only [ok, Bool.and_eq_true, Bool.or_eq_true, bne_iff_ne, ne_eq, beq_iff_eq] at hok
    obtain ⟨hf1, hp1, hI1⟩ := step_sim w prev c acc hp hI (fun h => hok.1.resolve_left (not_not_intro h))
    obtain ⟨hf2, hfin, hI2⟩ := ih (wstep w c).1 c (acc ++ outOf prev c) hp1 hI1 hok.2
    exact ⟨by simp only [write, feed_append, hf1, hf2, lfToCrlf_cons], hfin,
      by simpa [write, lfToCrlf_cons, List.append_assoc] using hI2⟩

theorem run_wclose (w : WSt) (hw : w ≠ .cr) (rest : Bytes) :
    run (rdOf w) (wclose w ++ rest) = (.eof, if w = .beginLine then [] else [CR, LF], rest) := by
  cases w with
  | cr => exact absurd rfl hw
  | beginLine => exact run_marker rest
  | begin_ | data => simp [wclose, rdOf, run, step]

end SmtpV.DotWriter
