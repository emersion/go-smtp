import SmtpV.Proofs.ByteEq
import SmtpV.Model.Wire
/-!
The wire model (`Model/Wire.lean`) on the octet stream `pending w`.  `connRead`, `limRead` and `fill` each change a few fields
of the wire: the `_cases` lemmas say which, as equations, and the rest is read off those.  To the wire, `readLine` is a sequence
of `fill`s (while no error is latched), buffer replacements and clearings of the latch, so it preserves what those three
preserve (`readLine_inv`).
-/
namespace SmtpV.Server
open SmtpV SmtpV.Wire

/-- the octets still to be read, as one stream -/
def pending (w : W) : Bytes := w.buf ++ w.segs.flatten

/-- what the segments still to come weigh: every octet, and one more per segment, so that a read which takes a whole segment
    lowers the weight even if the segment is empty -/
def sm (segs : List Bytes) : Nat := (segs.map (fun s => s.length + 1)).sum

/-- the measure the model's fuel is taken from (`fuelOf_eq`): no read raises it (`Took.sm`), and moving octets from the segments
    into the buffer does not either -/
def mu (w : W) : Nat := sm w.segs + w.buf.length

theorem fuelOf_eq (w : W) : fuelOf w = mu w + 8 := by
  simp only [fuelOf, mu, sm, Nat.div_one]

theorem fuelOf_gt (w : W) : sm w.segs < fuelOf w := by
  rw [fuelOf_eq, mu]; omega

theorem pending_le_mu (w : W) : (pending w).length ≤ mu w := by
  have : ∀ segs : List Bytes, segs.flatten.length ≤ sm segs := fun segs => by
    induction segs with
    | nil => exact Nat.le_refl _
    | cons s t ih => rw [List.flatten_cons, List.length_append]; exact Nat.add_le_add (Nat.le_succ _) ih
  rw [pending, mu, List.length_append, Nat.add_comm]
  exact Nat.add_le_add_right (this w.segs) _

structure Took (segs : List Bytes) (space : Nat) (bs : Bytes) (segs' : List Bytes) : Prop where
  eq : bs ++ segs'.flatten = segs.flatten
  le : bs.length ≤ space
  sm : sm segs' + bs.length ≤ sm segs
  ne : (∀ s ∈ segs, s ≠ []) → ∀ s ∈ segs', s ≠ []
  pos : (∀ s ∈ segs, s ≠ []) → 0 < space → bs ≠ []

theorem take_ne_nil {bs : Bytes} {m : Nat} (h : bs ≠ []) (hm : 0 < m) : bs.take m ≠ [] :=
  fun h0 => (List.take_eq_nil_iff.mp h0).elim (Nat.ne_of_gt hm) h

theorem connRead_cases (w : W) (space : Nat) :
    w.segs = [] ∧ connRead w space = (w, .error w.tail) ∨
    ∃ bs segs', connRead w space = ({ w with segs := segs' }, .ok bs) ∧ Took w.segs space bs segs' := by
  unfold connRead
  cases w.segs with
  | nil => exact .inl ⟨rfl, rfl⟩
  | cons s rest =>
    right
    by_cases hle : s.length ≤ space
    · exact ⟨s, rest, if_pos hle, rfl, hle, by rw [Nat.add_comm]; exact Nat.add_le_add_right (Nat.le_succ _) _,
        fun h x hx => h x (List.mem_cons_of_mem _ hx), fun h _ => h s List.mem_cons_self⟩
    · refine ⟨s.take space, s.drop space :: rest, if_neg hle, ?_, List.length_take_le _ _, ?_, fun h x hx => ?_,
        fun _ => take_ne_nil fun h => hle (h ▸ Nat.zero_le _)⟩
      · simp only [List.flatten_cons]; rw [← List.append_assoc, List.take_append_drop]
      · have := congrArg List.length (List.take_append_drop space s)
        simp only [sm, List.map_cons, List.sum_cons, List.length_append] at this ⊢
        omega
      · rcases List.mem_cons.mp hx with rfl | hx
        · exact List.ne_nil_of_length_pos (List.length_drop ▸ Nat.sub_pos_of_lt (Nat.lt_of_not_le hle))
        · exact h x (List.mem_cons_of_mem _ hx)

theorem limRead_cases (w : W) (space : Nat) :
    (∃ segs' c, limRead w space = ({ w with segs := segs', cur := c, tripped := true }, .error .tooLong) ∧
      sm segs' ≤ sm w.segs ∧ ((∀ s ∈ w.segs, s ≠ []) → ∀ s ∈ segs', s ≠ [])) ∨
    w.segs = [] ∧ limRead w space = (w, .error w.tail) ∨
    ∃ bs segs' c, limRead w space = ({ w with segs := segs', cur := c }, .ok bs) ∧ Took w.segs space bs segs' := by
  unfold limRead
  by_cases h0 : (decide (w.cur > w.limit) && decide (w.limit > 0)) = true
  · exact .inl ⟨w.segs, w.cur, if_pos h0, Nat.le_refl _, fun h => h⟩
  · rw [if_neg h0]
    rcases connRead_cases w space with ⟨hs, hc⟩ | ⟨bs, segs', hc, ht⟩ <;> rw [hc]
    · exact .inr (.inl ⟨hs, rfl⟩)
    · dsimp only
      by_cases hl : (w.limit == 0) = true
      · exact .inr (.inr ⟨bs, segs', w.cur, if_pos hl, ht⟩)
      · rw [if_neg hl]
        by_cases htr : (countLoop w.limit w.cur bs).2 = true
        · exact .inl ⟨segs', _, if_pos htr, Nat.le_trans (Nat.le_add_right _ _) ht.sm, ht.ne⟩
        · exact .inr (.inr ⟨bs, segs', _, if_neg htr, ht⟩)

theorem limRead_lifted (w : W) (space : Nat) (hl : w.limit = 0) : limRead w space = connRead w space := by
  unfold limRead
  rw [if_neg (by rw [hl, Bool.and_eq_true]; exact fun h => absurd (of_decide_eq_true h.2) (Nat.lt_irrefl 0))]
  rcases connRead_cases w space with ⟨_, hc⟩ | ⟨bs, segs', hc, _⟩ <;> rw [hc]
  exact if_pos (beq_iff_eq.mpr hl)

theorem fill_cases (w : W) :
    (∃ segs' c, fill w = { w with segs := segs', cur := c, tripped := true, err := some .tooLong } ∧
      sm segs' ≤ sm w.segs ∧ ((∀ s ∈ w.segs, s ≠ []) → ∀ s ∈ segs', s ≠ [])) ∨
    w.segs = [] ∧ fill w = { w with err := some w.tail } ∨
    ∃ bs segs' c, fill w = { w with segs := segs', cur := c, buf := w.buf ++ bs } ∧
      Took w.segs (bufSize - w.buf.length) bs segs' := by
  unfold fill
  rcases limRead_cases w (bufSize - w.buf.length) with ⟨segs', c, h, hs⟩ | ⟨hs, h⟩ | ⟨bs, segs', c, h, ht⟩ <;> rw [h]
  · exact .inl ⟨segs', c, rfl, hs⟩
  · exact .inr (.inl ⟨hs, rfl⟩)
  · exact .inr (.inr ⟨bs, segs', c, rfl, ht⟩)

theorem resume_shape (w : W) (m : Nat) (p : Bytes) :
    ∃ c t, Wire.resume w m p = { w with limit := m, cur := c, tripped := w.tripped || t } := by
  unfold Wire.resume
  by_cases h : (m == 0) = true
  · rw [if_pos h, beq_iff_eq.mp h]; exact ⟨0, false, by rw [Bool.or_false]⟩
  · rw [if_neg h]; exact ⟨_, _, rfl⟩

/-- the harness's (and the network's) segments are non-empty, and no error is latched -/
def Live (w : W) : Prop := (∀ s ∈ w.segs, s ≠ []) ∧ w.err = none

/-- well-formed wire: the network hands over non-empty segments, and an error is latched only once the
    source has failed (nothing more to come) or the limiter has tripped -/
structure WF (w : W) : Prop where
  ne : ∀ s ∈ w.segs, s ≠ []
  err : w.err.isSome = true → w.segs = [] ∨ w.tripped = true

theorem WF_buf {w : W} (h : WF w) (b : Bytes) : WF { w with buf := b } := ⟨h.ne, h.err⟩

theorem WF.dry {w : W} (h : WF w) (hb : w.buf = []) (he : w.err.isSome = true) (ht : w.tripped = false) : pending w = [] := by
  rw [pending, hb, (h.err he).resolve_right fun h' => by rw [ht] at h'; cases h']
  rfl

theorem not_tripped_of {w w' : W} (h : w.tripped = true → w'.tripped = true) (ht : w'.tripped = false) :
    w.tripped = false := by
  cases hb : w.tripped with
  | false => rfl
  | true => rw [h hb] at ht; cases ht

/-- `w'` is `w` after refills and clearings of the latch: octets are lost only when the limiter trips, which is latched -/
structure Fed (w w' : W) : Prop where
  trip : w.tripped = true → w'.tripped = true
  wf : WF w → WF w'
  mu : mu w' ≤ mu w
  pending : w'.tripped = false → pending w' = pending w

theorem Fed.refl (w : W) : Fed w w := ⟨id, id, Nat.le_refl _, fun _ => rfl⟩

theorem Fed.trans {a b c : W} (h1 : Fed a b) (h2 : Fed b c) : Fed a c :=
  ⟨h2.trip ∘ h1.trip, h2.wf ∘ h1.wf, Nat.le_trans h2.mu h1.mu,
    fun h => by rw [h2.pending h, h1.pending (not_tripped_of h2.trip h)]⟩

theorem Fed.clear (w : W) : Fed w { w with err := none } := ⟨id, fun h => ⟨h.ne, nofun⟩, Nat.le_refl _, fun _ => rfl⟩

theorem fill_fed (w : W) (he : w.err = none) : Fed w (fill w) := by
  rcases fill_cases w with ⟨segs', c, hf, hs, hn⟩ | ⟨hs, hf⟩ | ⟨bs, segs', c, hf, ht⟩ <;> rw [hf]
  · exact ⟨fun _ => rfl, fun h => ⟨hn h.ne, fun _ => .inr rfl⟩, Nat.add_le_add_right hs _, nofun⟩
  · exact ⟨id, fun h => ⟨h.ne, fun _ => .inl hs⟩, Nat.le_refl _, fun _ => rfl⟩
  · refine ⟨id, fun h => ⟨ht.ne h.ne, fun h' => by rw [he] at h'; cases h'⟩, ?_, fun _ => ?_⟩
    · simp only [mu, List.length_append]
      rw [Nat.add_comm w.buf.length, ← Nat.add_assoc]
      exact Nat.add_le_add_right ht.sm _
    · simp only [pending, List.append_assoc, ht.eq]

theorem peek3_fed (fuel : Nat) (w : W) : Fed w (peek3 fuel w).1 ∧ (peek3 fuel w).2 = (peek3 fuel w).1.buf.take 3 := by
  fun_induction peek3 fuel w with
  | case1 w => exact ⟨.refl w, rfl⟩
  | case2 fuel w h3 => exact ⟨.refl w, rfl⟩
  | case3 fuel w h3 e he => exact ⟨.clear w, (List.take_of_length_le (Nat.le_of_not_ge h3)).symm⟩
  | case4 fuel w h3 he ih => exact ⟨(fill_fed w he).trans ih.1, ih.2⟩

/-- what `bufio.Reader.ReadByte` relies on -/
theorem fill_progress {w : W} (hwf : WF w) (hb : w.buf.length < bufSize) :
    (fill w).err.isSome = true ∨ w.buf.length < (fill w).buf.length := by
  rcases fill_cases w with ⟨segs', c, hf, _⟩ | ⟨_, hf⟩ | ⟨bs, segs', c, hf, ht⟩ <;> rw [hf]
  · exact .inl rfl
  · exact .inl rfl
  · have := List.length_pos_iff.mpr (ht.pos hwf.ne (Nat.sub_pos_of_lt hb))
    exact .inr (by simp only [List.length_append]; exact Nat.lt_add_of_pos_right this)

section
variable {P : W → Prop} (hfill : ∀ w, w.err = none → P w → P (fill w)) (hbuf : ∀ w b, P w → P { w with buf := b })
  (hclear : ∀ w b, P w → P { w with buf := b, err := none })
include hfill hbuf hclear

theorem readSlice_inv (fuel : Nat) (w : W) : P w → P (readSlice fuel w).1 := by
  fun_induction readSlice fuel w with
  | case1 => exact id                                           -- no fuel
  | case2 | case4 => exact hbuf _ _                             -- a line, or a full buffer, is handed out
  | case3 => exact hclear _ _                                   -- what is buffered goes out with the latched error
  | case5 fuel w _ he _ ih => exact fun h => ih (hfill w he h)  -- fill, and look again

theorem bufioReadLine_inv (fuel : Nat) (w : W) (h : P w) : P (bufioReadLine fuel w).1 := by
  have := readSlice_inv hfill hbuf hclear fuel w h
  fun_cases bufioReadLine fuel w with
  | case1 w1 bs heq => rw [heq] at this; exact hbuf _ _ this   -- a full buffer ending in CR: the CR is put back
  | case2 w1 bs heq | case3 w1 bs e heq | case4 w1 bs heq => rw [heq] at this; exact this

theorem readLineAux_inv (n fuel : Nat) (w : W) (acc : Bytes) : P w → P (readLineAux n fuel w acc).1 := by
  fun_induction readLineAux n fuel w acc with
  | case1 => exact id
  | case2 n fuel w acc w1 e heq | case3 n fuel w acc w1 bs heq =>   -- an error, or the last piece of the line
    exact fun h => (heq ▸ bufioReadLine_inv hfill hbuf hclear fuel w h :)
  | case4 n fuel w acc w1 bs heq ih =>                              -- a piece, more to come
    exact fun h => ih (heq ▸ bufioReadLine_inv hfill hbuf hclear fuel w h :)

theorem readLine_inv (w : W) (h : P w) : P (readLine w).1 := by
  have := readLineAux_inv hfill hbuf hclear (fuelOf w) (fuelOf w) w [] h
  fun_cases readLine w with
  | case1 f w1 l heq | case2 f w1 l heq | case3 f w1 l heq | case4 f w1 e heq => rw [heq] at this; exact this
end

theorem readLine_wf (w : W) (h : WF w) : WF (readLine w).1 :=
  readLine_inv (fun w he h => (fill_fed w he).wf h) (fun _ _ h => WF_buf h _) (fun _ _ h => ⟨h.ne, nofun⟩) w h

def NoLF (bs : Bytes) : Prop := ∀ b ∈ bs, b ≠ LF

theorem NoLF.nil : NoLF [] := fun _ h => nomatch h

theorem NoLF.append {a b : Bytes} (ha : NoLF a) (hb : NoLF b) : NoLF (a ++ b) := by
  intro x hx; rcases List.mem_append.mp hx with h | h
  · exact ha x h
  · exact hb x h

theorem NoLF.left {a b : Bytes} (h : NoLF (a ++ b)) : NoLF a := fun x hx => h x (List.mem_append.mpr (Or.inl hx))
theorem NoLF.right {a b : Bytes} (h : NoLF (a ++ b)) : NoLF b := fun x hx => h x (List.mem_append.mpr (Or.inr hx))

theorem lfEnd_go_none (s : Bytes) (i : Nat) (h : NoLF s) : lfEnd.go s i = none := by
  induction s generalizing i with
  | nil => rfl
  | cons c t ih =>
    have hc : (c == LF) = false := beq_false_of_ne (h c List.mem_cons_self)
    simp only [lfEnd.go, hc, Bool.false_eq_true, if_false]
    exact ih _ (fun x hx => h x (List.mem_cons_of_mem _ hx))

theorem lfEnd_none (s : Bytes) (h : NoLF s) : lfEnd s = none := lfEnd_go_none s 0 h

/-- the invariant of the line reader on a stream without a line feed; it survives the limiter tripping, since a `fill`
    that loses octets latches an error -/
def Cut (w : W) : Prop := NoLF w.buf ∧ (w.err = none → NoLF (pending w))

theorem fill_cut (w : W) (he : w.err = none) (h : Cut w) : Cut (fill w) := by
  rcases fill_cases w with ⟨segs', c, hf, _⟩ | ⟨_, hf⟩ | ⟨bs, segs', c, hf, ht⟩ <;> rw [hf]
  · exact ⟨h.1, nofun⟩
  · exact ⟨h.1, nofun⟩
  · have : NoLF (w.buf ++ bs ++ segs'.flatten) := by rw [List.append_assoc, ht.eq]; exact h.2 he
    exact ⟨this.left, fun _ => this⟩

theorem readSlice_cut (fuel : Nat) (w : W) : Cut w →
    match (readSlice fuel w).2 with
    | .line _ => False
    | .full _ => Cut (readSlice fuel w).1
    | .errWith _ _ => True := by
  fun_induction readSlice fuel w with
  | case1 | case3 => exact fun _ => trivial                                       -- no fuel; a latched error
  | case2 fuel w i hi => intro hc; rw [lfEnd_none w.buf hc.1] at hi; cases hi     -- a line: there is no LF to end one
  | case4 fuel w _ he _ => exact fun hc => ⟨.nil, fun _ => (hc.2 he).right⟩       -- a full buffer is handed out
  | case5 fuel w _ he _ ih => exact fun hc => ih (fill_cut w he hc)               -- fill, and look again

theorem bufioReadLine_cut (fuel : Nat) (w : W) (hc : Cut w) :
    match (bufioReadLine fuel w).2 with
    | .err _ => True
    | .piece _ more => more = true ∧ Cut (bufioReadLine fuel w).1 := by
  have h := readSlice_cut fuel w hc
  have hcr : NoLF [CR] := fun x hx => by cases List.mem_singleton.mp hx; decide
  fun_cases bufioReadLine fuel w with
  | case1 w1 bs heq => rw [heq] at h; exact ⟨rfl, hcr, fun he => hcr.append (h.2 he).right⟩  -- the CR that is put back
  | case2 w1 bs heq => rw [heq] at h; exact ⟨rfl, h⟩
  | case3 w1 bs e heq => exact trivial
  | case4 w1 bs heq => rw [heq] at h; exact h.elim

theorem readLineAux_cut (n fuel : Nat) (w : W) (acc : Bytes) : Cut w → ∃ e, (readLineAux n fuel w acc).2 = .error e := by
  fun_induction readLineAux n fuel w acc with
  | case1 | case2 => exact fun _ => ⟨_, rfl⟩
  -- a last piece does not come; after a piece with more to come the stream is still cut
  | case3 n fuel w acc w1 bs heq => intro hc; have hb := bufioReadLine_cut fuel w hc; rw [heq] at hb; cases hb.1
  | case4 n fuel w acc w1 bs heq ih => intro hc; have hb := bufioReadLine_cut fuel w hc; rw [heq] at hb; exact ih hb.2

/-- on top of `readLineAux`, `readLine` only checks the latch and the length: a line can only turn into an error -/
theorem readLine_of_aux {w : W} (h : (∃ e, (readLineAux (fuelOf w) (fuelOf w) w []).2 = .error e) ∨
    (readLineAux (fuelOf w) (fuelOf w) w []).1.tripped = true) : ∃ e, (readLine w).2 = .error e := by
  unfold readLine
  dsimp only
  generalize readLineAux (fuelOf w) (fuelOf w) w [] = x at h ⊢
  obtain ⟨w1, r⟩ := x
  cases r with
  | error e => exact ⟨e, rfl⟩
  | ok l =>
    rcases h with ⟨e, h⟩ | h
    · cases h
    · dsimp only at h ⊢; rw [if_pos h]; exact ⟨_, rfl⟩

theorem readLine_tripped (w : W) (h : w.tripped = true) : ∃ e, (readLine w).2 = .error e :=
  readLine_of_aux (.inr (readLineAux_inv (P := fun w => w.tripped = true) (fun w he h => (fill_fed w he).trip h)
    (fun _ _ h => h) (fun _ _ h => h) _ _ w [] h))

/-- a command line cut short — the connection failed or timed out before its line feed — is not handed to the command loop:
    `Conn.readLine` reports an error (conn.go, repaired; before, bufio's "rest of the input as a line" was run as a command) -/
theorem readLine_cut (w : W) (h : NoLF (pending w)) : ∃ e, (readLine w).2 = .error e :=
  readLine_of_aux (.inl (readLineAux_cut _ _ w [] ⟨h.left, fun _ => h⟩))

end SmtpV.Server
