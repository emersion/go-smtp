import SmtpV.Proofs.ServerWalk
/-!
C04, "exactly one reply per command": the number of writes on the socket, followed through the handlers of the server model.
-/
namespace SmtpV.Server
open SmtpV SmtpV.Wire SmtpV.DataReader SmtpV.Spec SmtpV.Reply

/-- a write on the socket (a reply, or several written at once) -/
def isW : Ev → Bool
  | .w _ => true
  | _ => false

/-- how many times the server has written to the socket so far (writes after the close are counted, not logged) -/
def nw (s : S) : Nat := (s.evs.filter isW).length + s.wac

@[simp] theorem nw_emit (s : S) (e : Ev) : nw (emit s e) = nw s + (if isW e then 1 else 0) := by
  unfold nw emit
  rw [List.filter_cons]
  cases isW e
  · rfl
  · exact Nat.add_right_comm _ 1 _

@[simp] theorem nw_write (s : S) (bs : Bytes) : nw (write s bs) = nw s + 1 := by
  unfold write
  split
  · exact (Nat.add_assoc _ _ 1).symm
  · exact nw_emit s (.w bs)

@[simp] theorem nw_reply (s : S) (code : Nat) (enh : Enh) (t : String) : nw (reply s code enh t) = nw s + 1 := nw_write _ _
@[simp] theorem nw_replyB (s : S) (code : Nat) (enh : Enh) (t : List Bytes) : nw (replyB s code enh t) = nw s + 1 := nw_write _ _

theorem Wrote.nw {n : Nat} {s s' : S} (h : Wrote n s s') : nw s' = nw s + n := by
  induction h with
  | nil s => rfl
  | cons bs _ ih => rw [ih, nw_write, Nat.add_assoc, Nat.add_comm 1]

theorem nw_of_eq {s s' : S} (h1 : s'.evs = s.evs) (h2 : s'.wac = s.wac) : nw s' = nw s := by simp [nw, h1, h2]

theorem Popped.nw {s s' : S} : Popped s s' → nw s' = nw s := fun ⟨_, h⟩ => h ▸ rfl
@[simp] theorem nw_setDrec (s : S) (k : Nat) (f : DRec → DRec) : nw (setDrec s k f) = nw s := rfl
@[simp] theorem nw_setHelo (s : S) (d : Bytes) : nw (setHelo s d) = nw s := rfl
@[simp] theorem nw_setBinarymime (s : S) (b : Bool) : nw (setBinarymime s b) = nw s := rfl

@[simp] theorem nw_delivFinish (s : S) (k : Nat) (e : RdEnd) : nw (delivFinish s k e) = nw s := by
  unfold delivFinish; dsimp only; split <;> simp [isW]

@[simp] theorem nw_c (s : S) (c : Conn) : nw { s with c := c } = nw s := rfl

@[simp] theorem nw_abortBdat (s : S) : nw (abortBdat s) = nw s := by
  unfold abortBdat
  split
  · rw [nw_c]; unfold delivAbort; split <;> simp
  · rfl

@[simp] theorem nw_logoutSess (s : S) : nw (logoutSess s) = nw s := by
  unfold logoutSess
  split
  · rw [nw_c, nw_emit]; rfl
  · rfl

@[simp] theorem nw_closeSock (s : S) : nw (closeSock s) = nw s := by
  unfold closeSock
  split
  · rfl
  · rw [nw_emit, nw_c]; rfl

@[simp] theorem nw_closeConn (s : S) : nw (closeConn s) = nw s := by unfold closeConn; simp
@[simp] theorem nw_resetSess (s : S) : nw (resetSess s) = nw s := by unfold resetSess; split <;> simp [isW]
@[simp] theorem nw_resetConn (s : S) : nw (resetConn s) = nw s := by
  unfold resetConn clearEnvelope; rw [nw_c, nw_resetSess, nw_abortBdat]

theorem nw_recoverPanic (p : S × Bool) : nw (recoverPanic p) = nw p.1 + (if p.2 then 1 else 0) := by
  unfold recoverPanic
  split <;> simp [isW, *]

@[simp] theorem nw_greetReply (s : S) (e : Bool) (d : Bytes) : nw (greetReply s e d) = nw s + 1 := (greetReply_wrote s e d).nw

@[simp] theorem nw_newSession (s : S) (d : Bytes) : nw (newSession s d).1 = nw s := by
  unfold newSession
  show nw (emit { (popNs s).2 with c := _ } _) = _
  rw [nw_emit, nw_c, (popNs_popped s).nw]; rfl

/-- a handler result: the replies written, the one still owed by `recover` included -/
def owed (p : S × Bool) : Nat := nw p.1 + (if p.2 then 1 else 0)
@[simp] theorem owed_false (s : S) : owed (s, false) = nw s := by simp [owed]
@[simp] theorem owed_true (s : S) : owed (s, true) = nw s + 1 := by simp [owed]

theorem owed_handleGreet (s : S) (e : Bool) (arg : Bytes) : owed (handleGreet s e arg) = nw s + 1 := by
  rcases handleGreet_cases s e arg with ⟨_, _, h⟩ | ⟨d, _, ⟨_, h⟩ | ⟨_, h⟩⟩ <;> rw [h]
  · simp
  · simp
  · split <;> simp

theorem Called.owed {r : BRes} {s : S} {c' : Conn} {p : S × Bool} (h : Called r s c' p) : owed p = nw s + 1 := by
  cases h with
  | ok bs _ => rw [owed_false, nw_write]; exact congrArg (· + 1) (nw_of_eq rfl rfl)
  | panic _ => exact owed_true s
  | err bs _ => rw [owed_false, nw_write]

theorem owed_handleMail (s : S) (arg : Bytes) : owed (handleMail s arg) = nw s + 1 := by
  rcases handleMail_cases s arg with ⟨b, _, _, _, _, _, _, he⟩ | ⟨_, _, _, _, _, he⟩ | ⟨_, _, _, _, _, _, _, _, he⟩ <;> rw [he]
  · cases b <;> simp
  · simp
  · rw [(mailCall_called _ _ _ _).owed]; simp [isW, (popMail_popped _).nw]

theorem owed_handleRcpt (s : S) (arg : Bytes) : owed (handleRcpt s arg) = nw s + 1 := by
  rcases handleRcpt_cases s arg with ⟨_, _, _, _, _, _, he⟩ | ⟨_, _, _, he⟩ | ⟨_, _, _, _, he⟩ | ⟨id, rcpt, opts, _, _, _, _, _, he⟩ <;> rw [he]
  · simp
  · simp
  · simp
  · rw [(rcptCall_called _ _ _ _).owed]; simp [isW, (popRcpt_popped s).nw]

@[simp] theorem nw_setW (s : S) (w : W) : nw (setW s w) = nw s := rfl
@[simp] theorem nw_setLimit (s : S) (n : Nat) : nw (setLimit s n) = nw s := rfl
@[simp] theorem nw_armLimit (s : S) : nw (armLimit s) = nw s := rfl
@[simp] theorem nw_addBytesReceived (s : S) (n : Nat) : nw (addBytesReceived s n) = nw s := rfl
@[simp] theorem nw_discardChunkN (s : S) (sz : Option Nat) : nw (discardChunkN s sz) = nw s :=
  let ⟨_, h⟩ := discardChunkN_eq s sz; h ▸ rfl
@[simp] theorem nw_setBdatStatus (s : S) : nw (setBdatStatus s) = nw s := let ⟨_, h⟩ := setBdatStatus_eq s; h ▸ rfl

theorem owed_dataFinish (s : S) (k : Nat) (r1 : DR) (octets : Bytes) (e : RdEnd) (dec : DataDec) :
    owed (dataFinish s k r1 octets e dec) = nw s + finalReplies s ∨
    ((dataFinish s k r1 octets e dec).2 = true ∧ owed (dataFinish s k r1 octets e dec) = nw s + 1) := by
  obtain ⟨ret, x, he | ⟨hw, he⟩ | ⟨hw, he⟩⟩ := dataFinish_cases s k r1 octets e dec <;> rw [he]
  · exact .inr ⟨rfl, by simp⟩
  · exact .inl (by simp [hw.nw, isW])
  · exact .inl (by simp [hw.nw])

/-- the final replies; or, when a backend without per-recipient statuses panics, none (the 421 is `recover`'s) -/
theorem owed_dataSync (s : S) (id : Nat) :
    owed (dataSync s id) = nw s + finalReplies s ∨ ((dataSync s id).2 = true ∧ owed (dataSync s id) = nw s + 1) := by
  obtain ⟨h5, h4, _⟩ := dataStart_fields s id
  have h3 : ∀ w, nw (setW (dataStart s id) w) = nw s := fun w => by
    rw [nw_setW, dataStart, nw_emit, ← (popData_popped s).nw]; rfl
  have hf : ∀ w, finalReplies (setW (dataStart s id) w) = finalReplies s := fun w => by
    unfold finalReplies; rw [setW_cfg, setW_c, h5, h4]
  rw [dataSync_eq, ← h3, ← hf]
  exact owed_dataFinish _ _ _ _ _ _

theorem owed_handleData (s : S) (arg : Bytes) :
    owed (handleData s arg) = nw s + (if dataAccepted s arg then 1 + finalReplies s else 1) ∨
    (dataAccepted s arg = true ∧ (handleData s arg).2 = true ∧ owed (handleData s arg) = nw s + 2) := by
  cases ha : dataAccepted s arg
  · obtain ⟨_, _, _, he⟩ := handleData_refused s arg ha
    left; rw [he]; simp
  · obtain ⟨s1, hw, he⟩ := handleData_accepted s arg ha
    rw [he]
    have hn := hw.nw
    have hf : finalReplies s1 = finalReplies s := by rw [finalReplies, hw.cfg, hw.c]; rfl
    split
    · right; simp [hn]
    · rcases owed_dataSync s1 ‹Nat› with h | ⟨h5, h6⟩
      · left; rw [h, hn, hf, if_pos rfl, Nat.add_assoc]
      · right; exact ⟨rfl, h5, by rw [h6, hn]⟩

theorem nw_copyChunk (fuel : Nat) (s : S) (k n cap : Nat) (hl : s.w.limit = 0) : nw (copyChunk fuel s k n cap).1 = nw s :=
  copyChunk_rel (R := fun _ s s' => nw s' = nw s) (fun _ => rfl) (fun h1 h2 => h2.trans h1) (fun _ h => h) (fun _ _ => rfl) k
    (fun s bs => by
      rcases delivWrite_cases s k bs with he | he | he <;> rw [he]
      · rfl
      · rw [nw_delivFinish, nw_setDrec]) fuel s n cap hl

theorem owed_bdatFail (s : S) (k left : Nat) (last : Bool) (err : BRes) :
    owed (bdatFail s k left last err) = nw s + chunkReplies s last := by
  unfold bdatFail
  simp only [owed_false, nw_armLimit, nw_resetConn]
  have h1 := (bdatFailReplies_wrote (setW s (discardN (wireFuel s.w) s.w left)) k last err).nw
  split <;> simp [h1] <;> rfl

theorem owed_bdatFinal (s : S) (k : Nat) : owed (bdatFinal s k) = nw s + finalReplies s := by
  have h1 : nw (if delivRunning s k then delivFinish s k .eof else s) = nw s := by split <;> simp
  obtain ⟨x, hw, he | he⟩ := bdatFinal_cases s k <;> rw [he] <;> simp [hw.nw, h1]

theorem owed_bdatAfterCopy (s : S) (k size left : Nat) (last : Bool) (ce : CopyEnd) :
    owed (bdatAfterCopy s k size left last ce) = nw s + chunkReplies s last := by
  rcases bdatAfterCopy_cases s k size left last ce with ⟨err, he⟩ | ⟨hl, _, he⟩ | ⟨hl, _, he⟩ <;> rw [he]
  · exact owed_bdatFail _ _ _ _ _
  · simp [chunkReplies, hl]
  · rw [owed_bdatFinal, nw_armLimit, nw_addBytesReceived, hl]; rfl

@[simp] theorem nw_bdatBegin (s : S) : nw (bdatBegin s).1 = nw s := by
  have hs : ∀ (x : S) (dec : DataDec), nw (startDelivery x dec).1 = nw x := fun x dec => by
    unfold startDelivery setBdat
    rw [nw_c, nw_emit]; rfl
  unfold bdatBegin
  split
  · rfl
  · dsimp only
    split <;> simp [hs, (popData_popped s).nw]

theorem owed_bdatChunk (s : S) (size : Nat) (last : Bool) : owed (bdatChunk s size last) = nw s + chunkReplies s last := by
  unfold bdatChunk
  dsimp only
  obtain ⟨h3, h2⟩ := copyChunk_fields (wireFuel (setLimit (bdatBegin (setBdatStatus s)).1 0).w)
    (setLimit (bdatBegin (setBdatStatus s)).1 0) (bdatBegin (setBdatStatus s)).2 size (min 32768 (max size 1)) rfl
  have b := bdatBegin_frame (setBdatStatus s)
  have hr : (setBdatStatus s).c.recipients = s.c.recipients := let ⟨_, h⟩ := setBdatStatus_eq s; h ▸ rfl
  rw [owed_bdatAfterCopy, nw_copyChunk _ _ _ _ _ rfl]
  simp only [chunkReplies, finalReplies, h2, h3, nw_setLimit, nw_bdatBegin, nw_setBdatStatus, setLimit_c, setLimit_cfg, b.cfg, b.c,
    (quiet_setBdatStatus s).cfg, hr]

theorem owed_handleBdat (s : S) (arg : Bytes) : ∃ last, owed (handleBdat s arg) = nw s + chunkReplies s last := by
  rcases handleBdat_cases s arg with ⟨_, _, _, _, he⟩ | ⟨_, he⟩ | ⟨_, last, _, _, _, he⟩ <;> rw [he]
  · exact ⟨false, by simp [chunkReplies]⟩
  · exact ⟨false, by simp [chunkReplies]⟩
  · exact ⟨last, owed_bdatChunk _ _ _⟩

/-- an unrecognised command: its reply, and the closing notice when the connection is given up -/
theorem nw_protocolErrorB (s : S) (code : Nat) (enh : Enh) (t : Bytes) :
    nw (protocolErrorB s code enh t) = nw s + 1 ∨
    (nw (protocolErrorB s code enh t) = nw s + 2 ∧ (protocolErrorB s code enh t).c.closed = true) := by
  unfold protocolErrorB
  dsimp only
  have h : ∀ c, nw ({ replyB s code enh [t] with c := c } : S) = nw s + 1 := fun c => (nw_c _ c).trans (nw_replyB _ _ _ _)
  split
  · exact .inr ⟨by rw [nw_closeConn, nw_reply, h], closeConn_closed _⟩
  · exact .inl (h _)

/-- one statement for both modes: `C04_one_reply_per_command` (plain SMTP) and `C04_lmtp_one_reply_per_recipient` read it off -/
theorem nw_dispatch_any (s : S) (cmd arg : Bytes)
    (hv : verbOf cmd ≠ .auth ∧ verbOf cmd ≠ .starttls ∧ verbOf cmd ≠ .unknown) :
    (verbOf cmd ≠ .bdat ∧ verbOf cmd ≠ .data ∧ nw (dispatch s cmd arg) = nw s + 1) ∨
    (verbOf cmd = .bdat ∧ ∃ last, nw (dispatch s cmd arg) = nw s + chunkReplies s last) ∨
    (verbOf cmd = .data ∧ (nw (dispatch s cmd arg) = nw s + (if dataAccepted s arg then 1 + finalReplies s else 1) ∨
      (dataAccepted s arg = true ∧ nw (dispatch s cmd arg) = nw s + 2))) := by
  by_cases hb : verbOf cmd = .bdat
  · refine .inr (.inl ⟨hb, ?_⟩)
    rw [dispatch, hb, nw_recoverPanic]; exact owed_handleBdat _ _
  by_cases hd : verbOf cmd = .data
  · refine .inr (.inr ⟨hd, ?_⟩)
    rw [dispatch, hd, nw_recoverPanic]
    rcases owed_handleData s arg with h1 | ⟨h1, _, h2⟩
    · exact .inl h1
    · exact .inr ⟨h1, h2⟩
  refine .inl ⟨hb, hd, ?_⟩
  unfold dispatch
  cases h : verbOf cmd
  case unimpl => simp
  case greet =>
    dsimp only
    rcases dispatchGreet_cases s cmd arg with ⟨_, he⟩ | ⟨_, he⟩ <;> rw [he]
    · exact nw_reply _ _ _ _
    · rw [nw_recoverPanic]; exact owed_handleGreet _ _ _
  case mail => rw [nw_recoverPanic]; exact owed_handleMail _ _
  case rcpt => rw [nw_recoverPanic]; exact owed_handleRcpt _ _
  case vrfy => simp
  case noop => simp
  case rset => simp
  case bdat => exact absurd h hb
  case data => exact absurd h hd
  case quit => simp
  case auth => exact absurd h hv.1
  case starttls => exact absurd h hv.2.1
  case unknown => exact absurd h hv.2.2

@[simp] theorem nw_tlsUpgrade (s : S) : nw (tlsUpgrade s) = nw s := by
  rw [tlsUpgrade, nw_resetConn, forgetGreeting, nw_c, nw_logoutSess]; rfl

/-- a step of the SASL mechanism (`sasl.Server.Next`) -/
def isSasl : Ev → Bool
  | .sasl _ _ _ _ => true
  | _ => false

/-- how many mechanism steps have been taken on this connection -/
def sc (s : S) : Nat := (s.evs.filter isSasl).length

@[simp] theorem sc_emit (s : S) (e : Ev) : sc (emit s e) = sc s + (if isSasl e then 1 else 0) := by
  unfold sc emit
  cases h : isSasl e <;> simp [h]

@[simp] theorem sc_write (s : S) (bs : Bytes) : sc (write s bs) = sc s := by
  unfold write
  split
  · rfl
  · simp [isSasl]

theorem Popped.sc {s s' : S} : Popped s s' → sc s' = sc s := fun ⟨_, h⟩ => h ▸ rfl
theorem sc_connReadLine (s : S) : sc (connReadLine s).1 = sc s := by unfold connReadLine; rfl
theorem nw_connReadLine (s : S) : nw (connReadLine s).1 = nw s := by unfold connReadLine; rfl

/-- `k` mechanism steps, as many replies, and `e` more: the reply to a cancelled or undecodable response -/
theorem owed_saslLoop : ∀ (fuel : Nat) (s : S) (resp : Option Bytes), ∃ k e, e ≤ 1 ∧ (0 < fuel → 0 < k) ∧
    sc (saslLoop fuel s resp).1 = sc s + k ∧ owed (saslLoop fuel s resp) = nw s + k + e := by
  intro fuel
  induction fuel with
  | zero => exact fun s _ => ⟨0, 0, Nat.zero_le _, id, rfl, rfl⟩
  | succ fuel ih =>
    intro s resp
    obtain ⟨st, s2, p, he, _, hs2, hc⟩ := saslLoop_cases fuel s resp
    rw [he]
    have h1 : nw s2 = nw s := by rw [hs2, nw_emit, (popSasl_popped s).nw]; rfl
    have h2 : sc s2 = sc s + 1 := by rw [hs2, sc_emit, (popSasl_popped s).sc]; rfl
    rcases hc with ⟨_, rfl⟩ | ⟨_, _, _, rfl⟩ | ⟨_, _, rfl⟩ | ⟨_, _, bs, s4, _, hq, hc⟩
    · exact ⟨1, 0, Nat.zero_le _, fun _ => Nat.one_pos, h2, by rw [owed_true, h1]⟩
    · exact ⟨1, 0, Nat.zero_le _, fun _ => Nat.one_pos, by rw [sc_write]; exact h2, by rw [owed_false, nw_write, nw_c, h1]⟩
    · exact ⟨1, 0, Nat.zero_le _, fun _ => Nat.one_pos, by rw [sc_write, h2], by rw [owed_false, nw_write, h1]⟩
    · have h5 : nw s4 = nw s + 1 := by rw [← h1, ← nw_write s2 bs, ← nw_connReadLine (write s2 bs), hq]
      have h6 : sc s4 = sc s + 1 := by rw [← h2, ← sc_write s2 bs, ← sc_connReadLine (write s2 bs), hq]
      rcases hc with rfl | ⟨_, rfl⟩ | ⟨_, rfl⟩
      · exact ⟨1, 0, Nat.zero_le _, fun _ => Nat.one_pos, h6, by rw [owed_false, h5]⟩
      · exact ⟨1, 1, Nat.le_refl _, fun _ => Nat.one_pos, by rw [sc_write, h6], by rw [owed_false, nw_write, h5]⟩
      · obtain ⟨k, e, he, _, hsc, hnw⟩ := ih s4 _
        exact ⟨k + 1, e, he, fun _ => Nat.succ_pos k,
          by rw [hsc, h6, Nat.add_assoc, Nat.add_comm 1], by rw [hnw, h5, Nat.add_assoc (nw s), Nat.add_comm 1]⟩

end SmtpV.Server
