import SmtpV.Proofs.ParamTrip
/-!
The first step of the whole-line trip of MAIL and RCPT: the server's `parseCmd` on a line as the client writes it
(`Client.mailLine`, `Client.rcptLine`, then CRLF) — a four-letter verb, a space, and an argument of 7-bit ASCII that
`strings.TrimSpace` leaves as it is.
-/
namespace SmtpV.LineTrip
open SmtpV SmtpV.Text SmtpV.Parse SmtpV.Props.C14 SmtpV.Xtext

theorem spaced_last (ts : List Bytes) (hts : ∀ t ∈ ts, t ≠ [] ∧ t.all graphic = true) (b : Byte)
    (h : (spaced ts).getLast? = some b) : graphic b = true := by
  rcases List.eq_nil_or_concat ts with rfl | ⟨ts, t, rfl⟩
  · simp [spaced] at h
  · obtain ⟨hne, hg⟩ := hts t (by simp)
    rw [List.concat_eq_append, spaced_append, spaced_one, List.append_cons, getLast?_append_ne _ _ hne] at h
    exact List.all_eq_true.mp hg b (List.mem_of_getLast? h)

theorem graphic_NoSp (b : Byte) (h : graphic b = true) : NoSp b := isSpaceRune_graphic b h

theorem graphic_not_crlf (b : Byte) (h : graphic b = true) : b ≠ CR ∧ b ≠ LF := ⟨ne_of_class h, ne_of_class h⟩

theorem lit_MAIL : "MAIL ".b = [77, 65, 73, 76, 32] := by decide +kernel
theorem lit_RCPT : "RCPT ".b = [82, 67, 80, 84, 32] := by decide +kernel
theorem lit_STARTTLS : "STARTTLS".b = [83, 84, 65, 82, 84, 84, 76, 83] := by decide +kernel

/-- `hns`: the verb does not start with `S` (83) — parse.go tests for the prefix `STARTTLS` before it cuts a four-letter verb -/
theorem parseCmd_verb (v0 v1 v2 v3 : Byte) (arg : Bytes)
    (hv : toUpper [v0, v1, v2, v3] = [v0, v1, v2, v3]) (hva : Ascii [v0, v1, v2, v3]) (hns : (if (97 ≤ v0.toNat && v0.toNat ≤ 122) = true then v0 - 32 else v0) ≠ 83)
    (ha : Ascii arg) (hne : arg ≠ [])
    (hh : ∀ b t, arg = b :: t → NoSp b) (hl : ∀ b, arg.getLast? = some b → graphic b = true) :
    parseCmd ([v0, v1, v2, v3, SP] ++ arg ++ [CR, LF]) = some ([v0, v1, v2, v3], arg) := by
  obtain ⟨a, t, rfl⟩ := List.exists_cons_of_ne_nil hne
  have hline : Ascii ([v0, v1, v2, v3, SP] ++ a :: t) :=
    (hva.append (b := [SP]) (List.forall_mem_singleton.mpr (by decide))).append ha
  -- `TrimRight` takes the CRLF off; the line is no STARTTLS and longer than five octets, so the verb is its first four octets
  -- and the argument what follows the fifth, which `TrimSpace` leaves alone
  unfold parseCmd
  rw [trimRightCRLF_crlf _ fun b hb =>
    graphic_not_crlf b (hl b ((getLast?_append_ne _ _ (List.cons_ne_nil a t)).symm.trans hb))]
  have hnp : hasPrefix (toUpper ([v0, v1, v2, v3, SP] ++ a :: t)) "STARTTLS".b = false := by
    rw [toUpper_ascii _ hline, lit_STARTTLS]
    exact Bool.and_eq_false_imp.mpr fun h => absurd (of_decide_eq_true h).symm hns
  simp only [hnp]
  -- not `show`: checking that the conditionals evaluate to this is dear, and `show` does it twice
  refine (?_ : some (toUpper [v0, v1, v2, v3], trimSpace (a :: t)) = _)
  rw [hv, trimSpace_id (a :: t) ha hh (fun b hb => graphic_NoSp b (hl b hb))]

end SmtpV.LineTrip
