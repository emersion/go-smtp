import SmtpV.Proofs.WireFacts
import SmtpV.Proofs.ServerFrame
/-!
BDAT framing on the wire model (C05).  With the line limit lifted, reading a chunk — into the delivery pipe or into the void —
consumes exactly the declared number of octets of `pending w`, however that stream is cut into segments and whatever bufio
already holds.
-/
namespace SmtpV.Server
open SmtpV SmtpV.Wire

/-- one `bufio.Reader.Read` with the limit lifted -/
structure BufRead (w : W) (m : Nat) (w' : W) (r : Except RErr Bytes) : Prop where
  limit : w'.limit = 0
  live : Live w → Live w'
  ok : ∀ bs, r = .ok bs → bs ++ pending w' = pending w ∧ bs.length ≤ m ∧ (Live w → 0 < m → bs ≠ [])
  error : ∀ e, r = .error e → pending w' = pending w ∧ (Live w → pending w = [])

theorem bufRead_frame (w : W) (m : Nat) (hl : w.limit = 0) : BufRead w m (bufRead w m).1 (bufRead w m).2 := by
  unfold bufRead
  -- what is buffered is served first; with nothing buffered, one read of the source: straight into the caller's slice if
  -- that is at least a buffer long, else into the buffer, of which the caller gets the head
  by_cases hbe : w.buf.isEmpty = true
  · rw [if_pos hbe]
    have hb : w.buf = [] := List.isEmpty_iff.mp hbe
    cases he : w.err with
    | some e => exact ⟨hl, fun h => ⟨h.1, rfl⟩, nofun, fun _ _ => ⟨rfl, fun h => by rw [h.2] at he; cases he⟩⟩
    | none =>
      have dry : w.segs = [] → BufRead w m w (.error w.tail) := fun hs =>
        ⟨hl, id, nofun, fun _ _ => ⟨rfl, fun _ => by rw [pending, hb, hs]; rfl⟩⟩
      simp only [limRead_lifted w _ hl]
      by_cases hm : m ≥ bufSize
      · rw [if_pos hm]
        rcases connRead_cases w m with ⟨hs, hc⟩ | ⟨bs, segs', hc, ht⟩ <;> rw [hc]
        · exact dry hs
        · refine ⟨hl, fun h => ⟨ht.ne h.1, h.2⟩, fun _ h => ?_, nofun⟩
          cases h
          exact ⟨by simp only [pending, hb, List.nil_append]; exact ht.eq, ht.le, fun h => ht.pos h.1⟩
      · rw [if_neg hm]
        rcases connRead_cases w bufSize with ⟨hs, hc⟩ | ⟨bs, segs', hc, ht⟩ <;> rw [hc]
        · exact dry hs
        · refine ⟨hl, fun h => ⟨ht.ne h.1, h.2⟩, fun _ h => ?_, nofun⟩
          cases h
          refine ⟨?_, List.length_take_le _ _, fun h hm => take_ne_nil (ht.pos h.1 (by decide)) hm⟩
          simp only [pending, hb, List.nil_append]
          rw [← List.append_assoc, List.take_append_drop, ht.eq]
  · rw [if_neg hbe]
    refine ⟨hl, id, fun _ h => ?_, nofun⟩
    cases h
    refine ⟨?_, List.length_take_le _ _, fun _ hm => take_ne_nil (fun h => hbe (by rw [h]; rfl)) hm⟩
    simp only [pending]
    rw [← List.append_assoc, List.take_append_drop]

/-- the arithmetic of a copy loop, after a read of `b` of the `n` octets wanted -/
theorem rest_fits {b l l1 n fuel : Nat} (hb : 0 < b) (hl : b + l1 = l) (hn : n ≤ l) (hf : n ≤ fuel + 1) :
    n - b ≤ l1 ∧ n - b ≤ fuel :=
  ⟨Nat.sub_le_of_le_add (by rw [Nat.add_comm, hl]; exact hn), Nat.sub_le_of_le_add (Nat.le_trans hf (Nat.add_le_add_left hb _))⟩

theorem discardN_took (fuel : Nat) : ∀ (w : W) (n : Nat), w.limit = 0 →
    ∃ d, d ≤ n ∧ pending (discardN fuel w n) = (pending w).drop d ∧ (discardN fuel w n).limit = 0 ∧
      (Live w → Live (discardN fuel w n) ∧ (n ≤ (pending w).length → n ≤ fuel → d = n)) := by
  induction fuel with
  | zero => intro w n hl; exact ⟨0, Nat.zero_le _, rfl, hl, fun h => ⟨h, fun _ h0 => (Nat.le_zero.mp h0).symm⟩⟩
  | succ fuel ih =>
    intro w n hl
    unfold discardN
    by_cases hn : (n == 0) = true
    · rw [if_pos hn]
      exact ⟨0, Nat.zero_le _, rfl, hl, fun h => ⟨h, fun _ _ => (beq_iff_eq.mp hn).symm⟩⟩
    · rw [if_neg hn]
      have hn0 : n ≠ 0 := fun h => hn (beq_iff_eq.mpr h)
      have hf := bufRead_frame w (min 8192 n) hl
      rcases hbr : bufRead w (min 8192 n) with ⟨w1, r⟩
      rw [hbr] at hf
      dsimp only at hf
      cases r with
      | error e =>
        obtain ⟨hp, hdry⟩ := hf.error e rfl
        refine ⟨0, Nat.zero_le _, hp, hf.limit, fun h => ⟨hf.live h, fun hlen _ => ?_⟩⟩
        rw [hdry h] at hlen
        exact absurd (Nat.le_zero.mp hlen) hn0
      | ok bs =>
        -- gone: the head of the stream, which this read returned (`hp`), then what the rest of the loop skips; a live source
        -- returns something, so the rest still fits stream and fuel (`rest_fits`)
        obtain ⟨hp, hlen, hne⟩ := hf.ok bs rfl
        obtain ⟨d, hd, hpd, hld, hlive⟩ := ih w1 (n - bs.length) hf.limit
        have hbn : bs.length ≤ n := Nat.le_trans hlen (Nat.min_le_right _ _)
        refine ⟨bs.length + d, Nat.add_le_of_le_sub' hbn hd, by rw [← hp, List.drop_length_add_append]; exact hpd, hld, fun h => ?_⟩
        obtain ⟨h1, h2⟩ := hlive (hf.live h)
        refine ⟨h1, fun hn hfu => ?_⟩
        have hm : 0 < min 8192 n := Nat.lt_min.mpr ⟨by decide, Nat.pos_of_ne_zero hn0⟩
        obtain ⟨a, b⟩ := rest_fits (List.length_pos_iff.mpr (hne h hm)) (by rw [← List.length_append, hp]) hn hfu
        rw [h2 a b, Nat.add_sub_cancel' hbn]

/-- **discarding a refused chunk.**  `io.Copy(ioutil.Discard, io.LimitReader(r, n))` with the limit lifted: for some
    `d ≤ n` exactly the first `d` octets of the stream are gone (when it is all `n`: `discardN_exact`). -/
theorem discardN_frame (fuel : Nat) : ∀ (w : W) (n : Nat), w.limit = 0 →
    ∃ d, d ≤ n ∧ pending (discardN fuel w n) = (pending w).drop d ∧ (discardN fuel w n).limit = 0 := fun w n hl =>
  let ⟨d, h1, h2, h3, _⟩ := discardN_took fuel w n hl
  ⟨d, h1, h2, h3⟩

theorem discardN_exact (fuel : Nat) (w : W) (n : Nat) (hl : w.limit = 0) (hw : Live w) (hn : n ≤ (pending w).length)
    (hf : n ≤ fuel) : pending (discardN fuel w n) = (pending w).drop n ∧ Live (discardN fuel w n) := by
  obtain ⟨d, _, hd, _, hlive⟩ := discardN_took fuel w n hl
  exact ⟨(hlive hw).2 hn hf ▸ hd, (hlive hw).1⟩

/-- the induction over the chunk copy, once for every relation; `R n` adds up the octets written -/
theorem copyChunk_rel {R : Nat → S → S → Prop} (refl : ∀ s, R 0 s s)
    (trans : ∀ {a b c m n}, R m a b → R n b c → R (m + n) a c) (mono : ∀ {a b m n}, m ≤ n → R m a b → R n a b)
    (read : ∀ (s : S) (m : Nat), R 0 s { s with w := (bufRead s.w m).1 }) (k : Nat)
    (write : ∀ (s : S) (bs : Bytes), R bs.length s (delivWrite s k bs).1) :
    ∀ (fuel : Nat) (s : S) (n cap : Nat), s.w.limit = 0 → R n s (copyChunk fuel s k n cap).1 := by
  intro fuel
  induction fuel with
  | zero => intro s n cap _; exact mono (Nat.zero_le _) (refl s)
  | succ fuel ih =>
    intro s n cap hl
    unfold copyChunk
    by_cases hn : (n == 0) = true
    · rw [if_pos hn]; exact mono (Nat.zero_le _) (refl s)
    · rw [if_neg hn]
      have h1 := read s (min cap n)
      have hf := bufRead_frame s.w (min cap n) hl
      rcases hbr : bufRead s.w (min cap n) with ⟨w1, r⟩
      rw [hbr] at h1 hf
      dsimp only at hf
      cases r with
      | error e => cases e <;> exact mono (Nat.zero_le _) h1
      | ok bs =>
        have hbn : bs.length ≤ n := Nat.le_trans (hf.ok bs rfl).2.1 (Nat.min_le_right _ _)
        have h2 : R bs.length s _ := mono (Nat.le_of_eq (Nat.zero_add _)) (trans h1 (write { s with w := w1 } bs))
        dsimp only
        by_cases hok : (delivWrite { s with w := w1 } k bs).2 = true
        · rw [if_pos hok]
          exact mono (Nat.le_of_eq (Nat.add_sub_cancel' hbn))
            (trans h2 (ih _ _ cap (by rw [(delivWrite_fields _ _ _).2.2.1]; exact hf.limit)))
        · rw [if_neg hok]; exact mono hbn h2

end SmtpV.Server
