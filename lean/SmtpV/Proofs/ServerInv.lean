import SmtpV.Proofs.HandlerCases
import SmtpV.Spec.Order
/-!
The central invariant of the server model, `Good`.  Most steps say nothing to the ordering monitor (`Neutral`); the others append
one event, whose guard in `Order.step_ok` is derived from the connection state (`Good.emit`).  During `Close`, `reset` and the
switch to TLS `Shape` does not hold: there the trace (`Tr`) and the final shape are treated apart.
-/
namespace SmtpV.Server
open SmtpV SmtpV.Spec SmtpV.Spec.Order SmtpV.Reply

/-- the monitor state a connection state stands for -/
def abs (c : Conn) : A :=
  { live := c.session, nextId := c.nextSess, closed := c.closed, tls := c.tls, upgrading := false,
    mailOk := c.fromReceived && c.session.isSome,
    nrcpt := bif c.session.isSome then c.recipients.length else 0,
    transfer := c.bdat.isSome && c.session.isSome,
    authed := c.didAuth && c.session.isSome }

/-- facts about the connection state that the monitor does not track -/
structure Shape (c : Conn) : Prop where
  closedSess : c.closed = true → c.session = none
  fromSess : c.closed = false → c.fromReceived = true → c.session.isSome = true
  bdatFrom : c.bdat.isSome = true → c.fromReceived = true ∧ c.closed = false
  idle : c.closed = false → c.session = none → c.recipients = [] ∧ c.didAuth = false

/-- the invariant: the trace so far is accepted from `a0`, ending in the abstraction of the state -/
structure Good (a0 : A) (s : S) : Prop where
  tr : Order.run s.cfg a0 s.evs.reverse = .ok (abs s.c)
  shape : Shape s.c

theorem Shape.open_of_session {c : Conn} (h : Shape c) {id : Nat} (hid : c.session = some id) : c.closed = false := by
  cases hc : c.closed with
  | false => rfl
  | true => rw [h.closedSess hc] at hid; cases hid

theorem closed_false_of_session {a0 : A} {s : S} (h : Good a0 s) {id : Nat} (hid : s.c.session = some id) :
    s.c.closed = false := h.shape.open_of_session hid

theorem Shape.no_envelope {c : Conn} (h : Shape c) (hcl : c.closed = false) (hs : c.session = none) :
    c.fromReceived = false ∧ c.bdat = none ∧ c.recipients = [] ∧ c.didAuth = false := by
  have hfr : c.fromReceived = false := by
    cases hf : c.fromReceived with
    | false => rfl
    | true => have := h.fromSess hcl hf; rw [hs] at this; cases this
  refine ⟨hfr, ?_, h.idle hcl hs⟩
  cases hb : c.bdat with
  | none => rfl
  | some k => have := (h.bdatFrom (by rw [hb]; rfl)).1; rw [hfr] at this; cases this

def Tr (a0 : A) (s : S) (m : A) : Prop := Order.run s.cfg a0 s.evs.reverse = .ok m

theorem Tr.emit {a0 m m' : A} {s : S} {e : Ev} (h : Tr a0 s m) (hs : Order.step s.cfg m e = .ok m') :
    Tr a0 (emit s e) m' := by
  unfold Tr at h ⊢
  rw [emit_evs, List.reverse_cons, Order.run_append, emit_cfg, h]
  simp only [Order.run, hs]

/-- `c' := s.c`, by eta, for an event that leaves the connection state alone -/
theorem Good.emit {a0 : A} {s : S} {c' : Conn} (h : Good a0 s) (e : Ev)
    (hs : Order.step s.cfg (abs s.c) e = .ok (abs c')) (hsh : Shape c') : Good a0 { emit s e with c := c' } :=
  ⟨Tr.emit h.tr hs, hsh⟩

theorem Good.fields {a0 : A} {s : S} (h : Good a0 s) (d : Bytes) (n : Nat) (b : Bool) (st : Option (List Bytes)) (k : Nat) :
    Good a0 { s with c := { s.c with helo := d, errCount := n, binarymime := b, bdatStatus := st, bytesReceived := k } } :=
  ⟨h.tr, ⟨h.shape.closedSess, h.shape.fromSess, h.shape.bdatFrom, h.shape.idle⟩⟩

/-- states that differ only in wire / backend script / delivery records -/
structure Same (s s1 : S) : Prop where
  c : s1.c = s.c
  cfg : s1.cfg = s.cfg
  evs : s1.evs = s.evs

theorem Same.refl (s : S) : Same s s := ⟨rfl, rfl, rfl⟩

/-- what is added to the trace (writes, logged panics) is accepted in every monitor state that agrees about `closed` and is
    not waiting for the Logout after STARTTLS, and leaves it there -/
structure Neutral (s s' : S) : Prop where
  c : s'.c = s.c
  cfg : s'.cfg = s.cfg
  tr : ∀ {a0 m : A}, m.closed = s.c.closed → m.upgrading = false → Tr a0 s m → Tr a0 s' m

theorem Same.neutral {s s' : S} (h : Same s s') : Neutral s s' :=
  ⟨h.c, h.cfg, fun _ _ ht => by unfold Tr at ht ⊢; rw [h.cfg, h.evs]; exact ht⟩

namespace Neutral

theorem refl (s : S) : Neutral s s := (Same.refl s).neutral

theorem trans {a b c : S} (h1 : Neutral a b) (h2 : Neutral b c) : Neutral a c :=
  ⟨h2.c.trans h1.c, h2.cfg.trans h1.cfg, fun hc hu h => h2.tr (by rw [h1.c]; exact hc) hu (h1.tr hc hu h)⟩

theorem ite {s x y : S} {c : Prop} [Decidable c] (hx : Neutral s x) (hy : Neutral s y) : Neutral s (if c then x else y) := by
  split
  · exact hx
  · exact hy

theorem good {a0 : A} {s s' : S} (hn : Neutral s s') (h : Good a0 s) : Good a0 s' :=
  ⟨hn.c ▸ hn.tr rfl rfl h.tr, hn.c ▸ h.shape⟩

end Neutral

theorem neutral_panicLog (s : S) : Neutral s (emit s .panicLog) :=
  ⟨rfl, rfl, fun _ hu h => h.emit (step_ok.2 ⟨by rw [hu]; nofun, rfl⟩)⟩

theorem neutral_write (s : S) (bs : Bytes) : Neutral s (write s bs) := by
  unfold write
  cases hc : s.c.closed with
  | true => exact Same.neutral ⟨rfl, rfl, rfl⟩
  | false =>
    refine ⟨rfl, rfl, fun hm hu h => h.emit (step_ok.2 ⟨by rw [hu]; nofun, hm.trans hc, ?_⟩)⟩
    rw [← hu]

theorem neutral_setW (s : S) (w : Wire.W) : Neutral s (setW s w) := Same.neutral ⟨rfl, rfl, rfl⟩
theorem neutral_setDrec (s : S) (k : Nat) (f : DRec → DRec) : Neutral s (setDrec s k f) := Same.neutral ⟨rfl, rfl, rfl⟩

theorem Wrote.neutral {n : Nat} {s s' : S} (h : Wrote n s s') : Neutral s s' := by
  induction h with
  | nil s => exact .refl s
  | cons bs _ ih => exact (neutral_write _ bs).trans ih

theorem neutral_delivFinish (s : S) (k : Nat) (e : RdEnd) : Neutral s (delivFinish s k e) :=
  .ite ((neutral_setDrec _ _ _).trans (neutral_panicLog _)) (neutral_setDrec _ _ _)

theorem neutral_delivAbort (s : S) (k : Nat) : Neutral s (delivAbort s k) := .ite (neutral_delivFinish _ _ _) (.refl _)

theorem neutral_delivWrite (s : S) (k : Nat) (bs : Bytes) : Neutral s (delivWrite s k bs).1 := by
  rcases delivWrite_cases s k bs with he | he | he <;> rw [he]
  · exact .refl _
  · exact neutral_setDrec _ _ _
  · exact (neutral_setDrec _ _ _).trans (neutral_delivFinish _ _ _)

theorem write_good {a0 : A} {s : S} (h : Good a0 s) (bs : Bytes) : Good a0 (write s bs) := (neutral_write _ _).good h

theorem Popped.same {s s' : S} : Popped s s' → Same s s' := fun ⟨_, h⟩ => h ▸ ⟨rfl, rfl, rfl⟩

theorem connReadLine_same {s s1 : S} {r : Except Wire.RErr Bytes} (h : connReadLine s = (s1, r)) : Same s s1 := by
  unfold connReadLine at h
  cases h
  exact ⟨rfl, rfl, rfl⟩

/-- the monitor is where `abs` puts it, or still in a transfer that `bdat` does not show: `abortBdat` empties `bdat` without
    telling the monitor, which leaves its transfer state only at the `Reset` or `Logout` that follows; the synchronous `Data`
    call never sets `bdat` -/
def TrT (a0 : A) (s : S) : Prop := ∃ t, Tr a0 s { abs s.c with transfer := t && s.c.session.isSome }

theorem Good.trT {a0 : A} {s : S} (h : Good a0 s) : TrT a0 s := ⟨s.c.bdat.isSome, h.tr⟩

theorem tr_abortBdat {a0 m : A} {s : S} (h : Tr a0 s m) (hc : m.closed = s.c.closed) (hu : m.upgrading = false) :
    Tr a0 (abortBdat s) m := by
  unfold abortBdat
  split
  · have hn := neutral_delivAbort s ‹Nat›
    generalize delivAbort s _ = x at hn ⊢
    exact hn.tr hc hu h
  · exact h

theorem tr_resetConn {a0 : A} {s : S} (h : TrT a0 s) : Tr a0 (resetConn s) (abs (resetConn s).c) := by
  obtain ⟨t, ht⟩ := h
  have ha := tr_abortBdat ht rfl rfl
  rw [resetConn_c]
  unfold resetConn resetSess
  rw [abortBdat_c]
  generalize abortBdat s = x at ha ⊢
  cases hs : s.c.session with
  | none =>
    rw [show abs { s.c with bdat := none, bdatStatus := none, bytesReceived := 0, fromReceived := false, recipients := [] } =
      { abs s.c with transfer := t && s.c.session.isSome } by simp [abs, hs]]
    exact ha
  | some id => exact ha.emit (step_ok.2 ⟨nofun, hs, by simp [abs, hs]⟩)

theorem shape_resetConn {s : S} (h : Shape s.c) : Shape (resetConn s).c := by
  rw [resetConn_c]
  exact ⟨h.closedSess, nofun, nofun, fun hc hn => ⟨rfl, (h.idle hc hn).2⟩⟩

/-- `Logout` is accepted wherever the monitor knows the session: in a transfer, and right after a STARTTLS handshake -/
theorem tr_logoutSess {a0 : A} {s : S} {t u : Bool}
    (h : Tr a0 s { abs s.c with transfer := t && s.c.session.isSome, upgrading := u && s.c.session.isSome }) :
    Tr a0 (logoutSess s) (abs (logoutSess s).c) := by
  rw [logoutSess_c]
  unfold logoutSess
  cases hs : s.c.session with
  | none =>
    rw [show abs { s.c with session := none } =
      { abs s.c with transfer := t && s.c.session.isSome, upgrading := u && s.c.session.isSome } by simp [abs, hs]]
    exact h
  | some id => exact h.emit (step_ok.2 ⟨fun _ => .inr ⟨id, rfl⟩, hs, by simp [abs]⟩)

theorem tr_closeSock {a0 : A} {s : S} (h : Tr a0 s (abs s.c)) (hs : s.c.session = none) :
    Tr a0 (closeSock s) (abs (closeSock s).c) := by
  rw [closeSock_c]
  unfold closeSock
  cases hc : s.c.closed with
  | true => rw [show abs { s.c with closed := true } = abs s.c by simp [abs, hc]]; exact h
  | false => exact h.emit (step_ok.2 ⟨nofun, hc, hs, rfl⟩)

theorem tr_closeConn {a0 : A} {s : S} (h : TrT a0 s) : Tr a0 (closeConn s) (abs (closeConn s).c) := by
  obtain ⟨t, ht⟩ := h
  have ha : Tr a0 (abortBdat s) { abs (abortBdat s).c with transfer := t && (abortBdat s).c.session.isSome } := by
    rw [abortBdat_c]; exact tr_abortBdat ht rfl rfl
  exact tr_closeSock (tr_logoutSess (u := false) ha) (by rw [logoutSess_c])

theorem shape_closeConn (s : S) : Shape (closeConn s).c := by
  rw [closeConn_c]
  exact ⟨fun _ => rfl, nofun, nofun, nofun⟩

theorem resetConn_good {a0 : A} {s : S} (h : Good a0 s) : Good a0 (resetConn s) :=
  ⟨tr_resetConn h.trT, shape_resetConn h.shape⟩

theorem closeConn_good {a0 : A} {s : S} (h : Good a0 s) : Good a0 (closeConn s) := ⟨tr_closeConn h.trT, shape_closeConn s⟩

theorem protocolErrorB_good {a0 : A} {s : S} (h : Good a0 s) (code : Nat) (enh : Enh) (t : Bytes) :
    Good a0 (protocolErrorB s code enh t) := by
  unfold protocolErrorB
  dsimp only
  split
  · exact closeConn_good (write_good ((write_good h _).fields _ _ _ _ _) _)
  · exact (write_good h _).fields _ _ _ _ _

theorem protocolError_good {a0 : A} {s : S} (h : Good a0 s) (code : Nat) (enh : Enh) (t : String) :
    Good a0 (protocolError s code enh t) := protocolErrorB_good h code enh t.b

end SmtpV.Server
