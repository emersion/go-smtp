import SmtpV.Proofs.ByteEq
import SmtpV.Model.Server
/-!
The parameter switches of MAIL and RCPT (`Server.mailParams`, `Server.rcptParams`): an equation per keyword, from which the
statements about a particular parameter start (C06 SIZE, C12 "disabled ⇒ 504", the C14 trip), and the fact that every refusal
is a 5xx.  `mailDecode` / `rcptDecode` compose what the handlers do with their argument up to and including the switch.
-/
namespace SmtpV.Server
open SmtpV SmtpV.Spec SmtpV.Text SmtpV.Parse SmtpV.Xtext

variable (cfg : Cfg) (v : Bytes) (rest : List (Bytes × Bytes))

section mail
variable (o : MailOpts) (bm : Bool)

theorem mailParams_nil : mailParams cfg [] o bm = .ok (o, bm) := rfl

theorem mailParams_SIZE : mailParams cfg (("SIZE".b, v) :: rest) o bm =
    match parseUintDec v 63 with
    | none => .refuse 501 ⟨5, 5, 4⟩ "Unable to parse SIZE as an integer"
    | some size =>
      if cfg.maxMsg > 0 && size > cfg.maxMsg then .refuse 552 ⟨5, 3, 4⟩ "Max message size exceeded"
      else mailParams cfg rest { o with size := size } bm := by
  rfl

theorem mailParams_SMTPUTF8 : mailParams cfg (("SMTPUTF8".b, v) :: rest) o bm =
    if !cfg.utf8 then .refuse 504 ⟨5, 5, 4⟩ "SMTPUTF8 is not implemented"
    else if !v.isEmpty then .refuse 501 ⟨5, 5, 4⟩ "SMTPUTF8 does not take a value"
    else mailParams cfg rest { o with utf8 := true } bm := by
  rfl

theorem mailParams_REQUIRETLS : mailParams cfg (("REQUIRETLS".b, v) :: rest) o bm =
    if !cfg.reqtls then .refuse 504 ⟨5, 5, 4⟩ "REQUIRETLS is not implemented"
    else if !v.isEmpty then .refuse 501 ⟨5, 5, 4⟩ "REQUIRETLS does not take a value"
    else mailParams cfg rest { o with requireTLS := true } bm := by
  rfl

theorem mailParams_BODY : mailParams cfg (("BODY".b, v) :: rest) o bm =
    if toUpper v == "BINARYMIME".b then
      if !cfg.binmime then .refuse 504 ⟨5, 5, 4⟩ "BINARYMIME is not implemented"
      else mailParams cfg rest { o with body := toUpper v } true
    else if toUpper v == "7BIT".b || toUpper v == "8BITMIME".b then mailParams cfg rest { o with body := toUpper v } bm
    else .refuse 501 ⟨5, 5, 4⟩ "Unknown BODY value" := by
  rfl

theorem mailParams_RET : mailParams cfg (("RET".b, v) :: rest) o bm =
    if !cfg.dsn then .refuse 504 ⟨5, 5, 4⟩ "RET is not implemented"
    else if toUpper v == "FULL".b || toUpper v == "HDRS".b then mailParams cfg rest { o with ret := toUpper v } bm
    else .refuse 501 ⟨5, 5, 4⟩ "Unknown RET value" := by
  rfl

theorem mailParams_ENVID : mailParams cfg (("ENVID".b, v) :: rest) o bm =
    if !cfg.dsn then .refuse 504 ⟨5, 5, 4⟩ "ENVID is not implemented"
    else match decodeXtext v with
      | some d =>
        if d.isEmpty || !isPrintableASCII d then .refuse 501 ⟨5, 5, 4⟩ "Malformed ENVID parameter value"
        else mailParams cfg rest { o with envid := d } bm
      | none => .refuse 501 ⟨5, 5, 4⟩ "Malformed ENVID parameter value" := by
  rfl

theorem mailParams_AUTH : mailParams cfg (("AUTH".b, v) :: rest) o bm =
    match decodeXtext v with
    | some d =>
      if d.isEmpty then .refuse 500 ⟨5, 5, 4⟩ "Malformed AUTH parameter value"
      else if d == "<>".b then mailParams cfg rest { o with auth := some [] } bm
      else match parseMailbox d with
        | some (mb, []) => mailParams cfg rest { o with auth := some mb } bm
        | _ => .refuse 500 ⟨5, 5, 4⟩ "Malformed AUTH parameter mailbox"
    | none => .refuse 500 ⟨5, 5, 4⟩ "Malformed AUTH parameter value" := by
  rfl

end mail

section rcpt
variable (o : RcptOpts)

theorem rcptParams_nil : rcptParams cfg [] o = .ok o := rfl

theorem rcptParams_NOTIFY : rcptParams cfg (("NOTIFY".b, v) :: rest) o =
    if !cfg.dsn then .refuse 504 ⟨5, 5, 4⟩ "NOTIFY is not implemented"
    else if notifyValid ((splitByte v 44).map toUpper) then
      rcptParams cfg rest { o with notify := (splitByte v 44).map toUpper }
    else .refuse 501 ⟨5, 5, 4⟩ "Malformed NOTIFY parameter value" := by
  rfl

theorem rcptParams_ORCPT : rcptParams cfg (("ORCPT".b, v) :: rest) o =
    if !cfg.dsn then .refuse 504 ⟨5, 5, 4⟩ "ORCPT is not implemented"
    else match decodeTypedAddress v with
      | some (ty, a) =>
        if a.isEmpty then .refuse 501 ⟨5, 5, 4⟩ "Malformed ORCPT parameter value"
        else rcptParams cfg rest { o with orcptType := ty, orcpt := a }
      | none => .refuse 501 ⟨5, 5, 4⟩ "Malformed ORCPT parameter value" := by
  rfl

theorem rcptParams_RRVS : rcptParams cfg (("RRVS".b, v) :: rest) o =
    if !cfg.rrvs then .refuse 504 ⟨5, 5, 4⟩ "RRVS is not implemented"
    else match parseRFC3339 (cutByte v 59).1 with
      | some t => rcptParams cfg rest { o with rrvs := some t }
      | none => .refuse 501 ⟨5, 5, 4⟩ "Malformed RRVS parameter value" := by
  rfl

end rcpt
end SmtpV.Server

namespace SmtpV.Props.C11
open SmtpV SmtpV.Spec SmtpV.Text SmtpV.Parse SmtpV.Server

/-- what the MAIL handler decodes from its argument: mailbox, options, BINARYMIME flag -/
def mailDecode (cfg : Cfg) (arg : Bytes) : Option (Bytes × MailOpts × Bool) :=
  match cutPrefixFold arg "FROM:".b with
  | none => none
  | some a =>
    match parseReversePath (trimSpace a) with
    | none => none
    | some (frm, rest) =>
      match parseArgs rest with
      | none => none
      | some args =>
        match mailParams cfg args {} false with
        | .ok (o, bm) => some (frm, o, bm)
        | .refuse _ _ _ => none

def rcptDecode (cfg : Cfg) (arg : Bytes) : Option (Bytes × RcptOpts) :=
  match cutPrefixFold arg "TO:".b with
  | none => none
  | some a =>
    match parsePath (trimSpace a) with
    | none => none
    | some (rcpt, rest) =>
      match parseArgs rest with
      | none => none
      | some args =>
        match rcptParams cfg args {} with
        | .ok o => some (rcpt, o)
        | .refuse _ _ _ => none

theorem mailDecode_some {cfg : Cfg} {arg frm : Bytes} {o : MailOpts} {bm : Bool} (h : mailDecode cfg arg = some (frm, o, bm)) :
    ∃ a rest args, cutPrefixFold arg "FROM:".b = some a ∧ parseReversePath (trimSpace a) = some (frm, rest) ∧
      parseArgs rest = some args ∧ mailParams cfg args {} false = .ok (o, bm) := by
  revert h
  -- case 4 is the branch through all four stages (keyword, path, `parseArgs`, switch); in 1–3 and 5 one of them fails
  fun_cases mailDecode cfg arg with
  | case4 a ha _ rest hp args hargs _ _ hm => rintro ⟨⟩; exact ⟨a, rest, args, ha, hp, hargs, hm⟩
  | case1 | case2 | case3 | case5 => nofun

theorem rcptDecode_some {cfg : Cfg} {arg rcpt : Bytes} {o : RcptOpts} (h : rcptDecode cfg arg = some (rcpt, o)) :
    ∃ a rest args, cutPrefixFold arg "TO:".b = some a ∧ parsePath (trimSpace a) = some (rcpt, rest) ∧
      parseArgs rest = some args ∧ rcptParams cfg args {} = .ok o := by
  revert h
  fun_cases rcptDecode cfg arg with
  | case4 a ha _ rest hp args hargs _ hm => rintro ⟨⟩; exact ⟨a, rest, args, ha, hp, hargs, hm⟩
  | case1 | case2 | case3 | case5 => nofun

theorem mailParams_refuse_5xx (cfg : Cfg) (args : List (Bytes × Bytes)) (o : MailOpts) (bm : Bool) (code : Nat) (enh : Enh)
    (text : String) (h : mailParams cfg args o bm = .refuse code enh text) : 500 ≤ code ∧ code ≤ 599 ∧ enh.a = 5 := by
  fun_induction mailParams cfg args o bm
  -- the nine branches that accept their parameter go on with the rest of the list; in the order of the switch: SIZE, SMTPUTF8,
  -- REQUIRETLS, BODY=BINARYMIME, BODY=7BIT or 8BITMIME, RET, ENVID, AUTH=<>, AUTH=mailbox
  case case4 ih | case7 ih | case10 ih | case12 ih | case13 ih | case16 ih | case20 ih | case23 ih | case24 ih => exact ih h
  -- the others end: with `.ok`, or with a refusal whose code stands there
  all_goals cases h <;> decide

theorem rcptParams_refuse_5xx (cfg : Cfg) (args : List (Bytes × Bytes)) (o : RcptOpts) (code : Nat) (enh : Enh)
    (text : String) (h : rcptParams cfg args o = .refuse code enh text) : 500 ≤ code ∧ code ≤ 599 ∧ enh.a = 5 := by
  fun_induction rcptParams cfg args o
  -- NOTIFY, ORCPT, RRVS accepted
  case case3 ih | case7 ih | case10 ih => exact ih h
  all_goals cases h <;> decide

end SmtpV.Props.C11
