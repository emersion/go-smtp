import SmtpV.Proofs.ReplyRT
import SmtpV.Spec.ReplySyntax
/-!
C04, reply syntax: what the server's renderer writes — one line or many — is accepted by the strict RFC 5321 recogniser used
as the judge, with the same code, and the enhanced status code the recogniser reads off a line is the one that was rendered.
-/
namespace SmtpV.Props.C04
open SmtpV SmtpV.Text SmtpV.Spec SmtpV.Reply SmtpV.ReplyRT SmtpV.Spec.ReplySyntax SmtpV.Props.C17

theorem splitCRLF_line (l : Bytes) (hl : ∀ b ∈ l, b ≠ 10) (t cur : Bytes) (acc : List Bytes) :
    splitCRLF (l ++ 13 :: 10 :: t) cur acc = splitCRLF t [] ((cur.reverse ++ l) :: acc) := by
  induction l generalizing cur with
  | nil => rw [List.append_nil]; rfl
  | cons c l ih =>
    -- the definition's last equation; its hypothesis says that the pattern `13 :: 10 :: _` does not match
    have step := splitCRLF.eq_3 cur acc c (l ++ 13 :: 10 :: t) fun t' _ e => by
      cases l with
      | nil => exact absurd (List.cons.inj e).1 (by decide)
      | cons d l' => exact hl d (List.mem_cons_of_mem _ List.mem_cons_self) (List.cons.inj e).1
    rw [List.cons_append, step, ih (fun b hb => hl b (List.mem_cons_of_mem _ hb)), List.reverse_cons, List.append_assoc]
    rfl

theorem splitCRLF_lines (ls : List Bytes) (h : ∀ l ∈ ls, ∀ b ∈ l, b ≠ 10) (acc : List Bytes) :
    splitCRLF (ls.flatMap (· ++ crlf)) [] acc = some (acc.reverse ++ ls) := by
  induction ls generalizing acc with
  | nil => simp [splitCRLF]
  | cons l ls ih =>
    rw [List.flatMap_cons, List.append_assoc]
    show splitCRLF (l ++ 13 :: 10 :: ls.flatMap (· ++ crlf)) [] acc = _
    rw [splitCRLF_line l (h l List.mem_cons_self), ih fun x hx => h x (List.mem_cons_of_mem _ hx), List.reverse_cons,
      List.append_assoc]
    rfl

theorem parseLine_wire (code : Nat) (h1 : 100 ≤ code) (h2 : code ≤ 999) (sep : Byte) (hsep : (sep == 32 || sep == 45) = true)
    (text : Bytes) : parseLine (natToDec code ++ sep :: text) = some { code := code, last := sep == 32, text := text } := by
  obtain ⟨a, b, c, hd, ha, hb, hc, hv⟩ := natToDec_code code h1 h2
  simp only [hd, List.cons_append, List.nil_append, parseLine, show ReplySyntax.isDigit a = true from ha,
    show ReplySyntax.isDigit b = true from hb, show ReplySyntax.isDigit c = true from hc, hsep, Bool.and_self, if_true, hv]

theorem wire_noLF (code : Nat) (sep : Byte) (hs : sep ≠ 10) (e : Enh) (l : Bytes) (hl : ∀ b ∈ l, b ≠ 10) :
    ∀ b ∈ natToDec code ++ sep :: (tok e ++ l), b ≠ 10 := by
  intro b hb
  simp only [tok, List.mem_append, List.mem_cons, List.not_mem_nil, or_false] at hb
  rcases hb with hb | rfl | (hb | rfl) | hb
  · exact ne_of_class (List.all_eq_true.mp (natToDec_digits code) b hb)
  · exact hs
  · exact (enhBytes_ne e b hb).2
  · decide
  · exact hl b hb

theorem mapM_cont (code : Nat) (h1 : 100 ≤ code) (h2 : code ≤ 999) (e : Enh) (mid : List Bytes) :
    (mid.map (contLine code e)).mapM parseLine =
      some (mid.map (fun t => ({ code := code, last := false, text := tok e ++ t } : RLine))) := by
  induction mid with
  | nil => rfl
  | cons t mid ih =>
    simp only [List.map_cons, List.mapM_cons, contLine, parseLine_wire code h1 h2 45 rfl, ih]
    rfl

theorem group_lines (code : Nat) (g : Bytes → Bytes) (mid : List Bytes) (last : Bytes) (ls : List Bytes) (acc : List Reply) :
    group (mid.map (fun t => ({ code := code, last := false, text := g t } : RLine)) ++ [{ code := code, last := true, text := g last }])
      (some code) ls acc = some (({ code := code, lines := ls.reverse ++ (mid ++ [last]).map g } : Reply) :: acc).reverse := by
  induction mid generalizing ls with
  | nil => simp [group]
  | cons t mid ih =>
    simp only [List.map_cons, List.cons_append, group, bne_self_eq_false, Bool.false_eq_true, if_false, ih]
    simp

/-- **the recogniser accepts the lines of a reply as `writeResponse` puts them on the wire** -/
theorem parse_wire (code : Nat) (h1 : 100 ≤ code) (h2 : code ≤ 999) (e : Enh) (mid : List Bytes) (last : Bytes)
    (hno : ∀ l ∈ mid ++ [last], ∀ b ∈ l, b ≠ 10) :
    ReplySyntax.parse ((mid.map (contLine code e) ++ [lastLine code e last]).flatMap (· ++ crlf)) =
      some [{ code := code, lines := (mid ++ [last]).map (tok e ++ ·) }] := by
  have hwl : ∀ l ∈ mid.map (contLine code e) ++ [lastLine code e last], ∀ b ∈ l, b ≠ 10 :=
    List.forall_mem_append.mpr
      ⟨List.forall_mem_map.mpr fun t ht => wire_noLF code 45 (by decide) e t (hno t (List.mem_append_left _ ht)),
        List.forall_mem_singleton.mpr
          (wire_noLF code 32 (by decide) e last (hno last (List.mem_append_right _ List.mem_cons_self)))⟩
  unfold ReplySyntax.parse
  rw [splitCRLF_lines _ hwl []]
  simp only [List.reverse_nil, List.nil_append, List.mapM_append, mapM_cont code h1 h2, List.mapM_cons, List.mapM_nil, lastLine,
    parseLine_wire code h1 h2 32 rfl]
  cases mid with
  | nil => rfl
  | cons t mid => exact group_lines code (tok e ++ ·) mid last [tok e ++ t] []

/-- **the recogniser accepts every reply the renderer writes** with an enhanced code -/
theorem reply_syntax_texts (code : Nat) (h1 : 100 ≤ code) (h2 : code ≤ 999) (enh : Enh) (texts : List Bytes)
    (he : EnhOk (effEnh code enh)) :
    ReplySyntax.parse (render code enh texts) =
      some [{ code := code, lines := (textLines texts).map (fun l => tok (effEnh code enh) ++ l) }] := by
  obtain ⟨hne, hno, -⟩ := splitByte_spec (List.intercalate [LF] texts) LF
  rw [render_wire code enh texts he]
  unfold textLines
  rw [← List.dropLast_concat_getLast hne] at hno ⊢
  rw [wireLines_concat, parse_wire code h1 h2 _ _ _ hno]

theorem cut_at_first (a r : Bytes) (sep : Byte) (h : ∀ y ∈ a, y ≠ sep) :
    (a ++ sep :: r).takeWhile (· != sep) = a ∧ (a ++ sep :: r).dropWhile (· != sep) = sep :: r :=
  span_first (fun y hy => bne_iff_ne.mpr (h y hy)) fun c hc => by cases hc; exact bne_self_eq_false sep

/-- the token is the line up to the first SP; inside it two dots cut three digit strings, each read back by `natToDec_value` -/
theorem enhOf_render (e : Enh) (he : EnhOk e) (msg : Bytes) :
    enhOf (enhBytes e ++ [32] ++ msg) = some (e.a.toNat, e.b.toNat, e.c.toNat) := by
  obtain ⟨a0, -, b0, -, c0, -⟩ := he
  have hnd : ∀ n, ∀ y ∈ natToDec n, y ≠ 46 := fun n y hy => ne_of_class (List.all_eq_true.mp (natToDec_digits n) y hy)
  have heb : enhBytes e = natToDec e.a.toNat ++ 46 :: (natToDec e.b.toNat ++ 46 :: natToDec e.c.toNat) := by
    simp [enhBytes, intToDec_nonneg _ a0, intToDec_nonneg _ b0, intToDec_nonneg _ c0]
  have hne : ∀ n, (natToDec n).isEmpty = false := fun n => List.isEmpty_eq_false_iff.mpr (natToDec_ne_nil n)
  have hdig : ∀ n, (natToDec n).all ReplySyntax.isDigit = true := natToDec_digits
  unfold enhOf
  rw [List.append_assoc, List.singleton_append, (cut_at_first _ _ 32 fun y hy => (enhBytes_ne e y hy).1).1]
  dsimp only
  -- the SP is there: the line is longer than the token
  rw [if_neg (by simp)]
  simp only [heb, cut_at_first _ _ 46 (hnd _), List.drop_succ_cons, List.drop_zero, hne, hdig, Bool.not_true, Bool.or_self,
    Bool.false_eq_true, if_false, natToDec_value]

end SmtpV.Props.C04
