import SmtpV.Proofs.DataWire
import SmtpV.Proofs.DataOnlyMarker
import SmtpV.Proofs.ServerFrame
/-!
Resumption after DATA (C02): whatever the backend of `dataSync` does (reads all, part or nothing of the message; accepts,
rejects, panics), whatever the size limit, the mode and the segmentation of the octet stream, once the handler returns the
stream stands exactly behind the end marker, or the connection is past executing commands (closed / line limiter latched /
nothing left to read).
-/
namespace SmtpV.Server
open SmtpV SmtpV.Wire SmtpV.DataReader SmtpV.Spec

/-- where the connection's octet stream stands after the DATA handler, relative to the stream `p0` it started on;
    `octets` is what the backend was handed -/
def Resumed (p0 octets : Bytes) (w' : W) : Prop :=
  w'.tripped = true ∨ pending w' = [] ∨
  ∃ tail rest, Terminated p0 (octets ++ tail) rest ∧ pending w' = rest

theorem drain_resumed (p0 octets : Bytes) (r1 : DR) (w1 : W) (hwf : WF w1)
    (hrun : w1.tripped = false → RunD .bol p0 r1.state (pending w1) octets) :
    Resumed p0 octets (drain (wireFuel w1) r1 w1) := by
  obtain ⟨_, d2, d3⟩ := drain_spec (wireFuel w1) r1 w1 hwf (wireFuel_ok w1 r1)
  cases ht : (drain (wireFuel w1) r1 w1).tripped with
  | true => exact Or.inl ht
  | false =>
    rcases d3 ht with h | ⟨out, hr⟩
    · exact Or.inr (Or.inl h)
    · refine Or.inr (Or.inr ⟨out, pending (drain (wireFuel w1) r1 w1), ?_, rfl⟩)
      exact run_eof_terminated p0 _ _ ((hrun (not_tripped_of d2 ht)).trans hr).eof

/-- **resumption.**  After the synchronous DATA delivery: a panic escapes (the connection is then closed by
    `handle`), or the connection has been closed, or the stream stands as `Resumed` says. -/
theorem dataSync_resume (s : S) (id : Nat) (hwf : WF s.w) :
    (dataSync s id).2 = true ∨ (dataSync s id).1.c.closed = true ∨
    ∃ octets, Resumed (pending s.w) octets (dataSync s id).1.w := by
  have hend := dataSync_shape s id
  unfold dataReads at hend
  obtain ⟨b1, _, b3⟩ := backendRead_spec (wireFuel s.w) (newDataReader s) s.w (popData s).1.want (popData s).1.rsz [] hwf
  generalize backendRead (wireFuel s.w) (newDataReader s) s.w (popData s).1.want (popData s).1.rsz [] = br at hend b1 b3
  obtain ⟨r1, w1, octets, e⟩ := br
  obtain ⟨ret, ⟨_, h | h⟩ | h⟩ := hend
  · exact .inl h
  · exact .inr (.inl h)
  · refine .inr (.inr ⟨octets, ?_⟩)
    rw [h.w, setW_w]
    refine drain_resumed (pending s.w) octets r1 w1 b1 fun ht => ?_
    obtain ⟨out, ho, hr⟩ := b3 ht
    rw [show (newDataReader s).state = .bol by unfold newDataReader; split <;> rfl] at hr
    cases ho
    exact hr

end SmtpV.Server
