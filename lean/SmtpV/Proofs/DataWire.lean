import SmtpV.Proofs.WireFacts
import SmtpV.Proofs.DataRead
import SmtpV.Model.Server
/-!
The DATA reader on the wire model: whatever the segmentation, the budget and the read sizes, `Wire.dataRead` walks the octet
stream `pending w` like the greedy run of the flat reader (`RunD`).  Octets leave the stream without passing through the state
machine only when the line limiter trips, which is latched (`tripped`) and ends the connection.
-/
namespace SmtpV.DataReader
/-- octets the state machine is withholding (the CR after a line-initial dot) -/
def held : St → Nat
  | .dotcr => 1
  | _ => 0

theorem held_le_one (s : St) : held s ≤ 1 := by cases s <;> simp [held]

theorem Boundary.held {s : St} (h : Boundary s) : held s = 0 := by
  rcases h with rfl | rfl | rfl <;> rfl

/-- the octets stored are the last summand, so that storing one more is `Nat.succ` of the whole sum -/
theorem readLoop_conserve (s : St) (inp : Bytes) (k : Nat) :
    held (readLoop s inp k).1 + (readLoop s inp k).2.2.length + (readLoop s inp k).2.1.length ≤ inp.length + held s := by
  fun_induction readLoop s inp k with
  | case1 s inp => simp [Nat.add_comm]
  | case2 inp k hk => simp [Nat.add_comm]
  | case3 s k hk hs => simp
  | case4 inp k => simp +arith [held]
  | case5 c inp h => simp [held]
  | case6 c inp h k' s' r ih =>
    rw [(it_emit_boundary .cr c c _ true (it_cr c)).held] at ih
    exact Nat.succ_le_succ (Nat.succ_le_succ ih)
  | case7 s c inp k hs1 hs2 s' e b hit r ih =>
    rw [(it_emit_boundary s c e s' b hit).held] at ih
    exact Nat.le_trans (Nat.succ_le_succ ih) (Nat.le_add_right _ _)
  | case8 s c inp k hs1 hs2 s' b hit r ih =>
    exact Nat.le_trans ih (Nat.le_trans (Nat.add_le_add_left (held_le_one s') _) (Nat.le_add_right _ _))

end SmtpV.DataReader

namespace SmtpV.Server
open SmtpV SmtpV.Wire SmtpV.DataReader

/-- what one `dataReader.Read` on the wire guarantees -/
structure ReadSpec (fuel : Nat) (r : DR) (w : W) (k : Nat) (acc : Bytes) (x : DR × W × Bytes × Res × Option RErr) : Prop where
  wf : WF x.2.1
  trip : w.tripped = true → x.2.1.tripped = true
  run : x.2.1.tripped = false → ∃ out, x.2.2.1 = acc ++ out ∧ RunD r.state (pending w) x.1.state (pending x.2.1) out
  eof : x.2.2.2.1 = .eof → x.1.state = .eof
  /-- an unexpected end reported with fuel to spare: the stream is exhausted, nothing was left unread for want of fuel -/
  dry : x.2.1.tripped = false → x.2.2.2.1 = .ueof → sm w.segs < fuel → pending x.2.1 = []
  /-- nothing is created: what the wire's measure lost was handed out or is withheld (this is what the drain's fuel is counted against) -/
  cons : mu x.2.1 + x.2.2.1.length + held x.1.state ≤ mu w + acc.length + held r.state
  /-- without a budget, "more" means the caller's buffer is full: every round of the drain makes progress -/
  full : r.limited = false → x.2.2.2.1 = .more → x.2.2.1.length = acc.length + k
  /-- … and "too large" is never said -/
  notLarge : r.limited = false → x.2.2.2.1 ≠ .tooLarge

theorem readLoop_dry {s s' : St} {inp out rest : Bytes} {k : Nat} (h : readLoop s inp k = (s', out, rest))
    (he : ¬ (s' == St.eof) = true) (hlt : out.length < k) : rest = [] :=
  ((h ▸ readLoop_stop s inp k) hlt).resolve_left fun e => he (beq_iff_eq.mpr e)

theorem readLoop_fed_conserve {r : DR} {w w'' : W} {k : Nat} {s' : St} {out rest : Bytes}
    (hrl : readLoop r.state w.buf k = (s', out, rest)) (hf : Fed { w with buf := rest } w'') (acc : Bytes) :
    mu w'' + (acc ++ out).length + held s' ≤ mu w + acc.length + held r.state := by
  have hC := hrl ▸ readLoop_conserve r.state w.buf k
  have := hf.mu
  simp only [mu, List.length_append] at *
  omega

/-- every way out of a `Read` but the refill -/
theorem ReadSpec.leaf {fuel : Nat} {r : DR} {w : W} {k : Nat} {acc : Bytes} {s' : St} {out rest : Bytes} {n' : Nat} {w'' : W}
    {res : Res} {e : Option RErr} (hwf : WF w) (hrl : readLoop r.state w.buf (room r k) = (s', out, rest))
    (hf : Fed { w with buf := rest } w'') (h1 : res = .eof → s' = .eof)
    (h2 : w''.tripped = false → res = .ueof → pending w'' = []) (h3 : res = .more → ¬ out.length < room r k)
    (h4 : res ≠ .tooLarge) :
    ReadSpec fuel r w k acc ({ r with state := s', n := n' }, w'', acc ++ out, res, e) := by
  have hA := readLoop_append r.state w.buf (room r k) w.segs.flatten
  have hL := readLoop_len r.state w.buf (room r k)
  rw [hrl] at hA hL
  refine ⟨hf.wf (WF_buf hwf _), hf.trip, fun ht => ⟨out, rfl, by rw [hf.pending ht]; exact hA⟩, h1, fun ht hu _ => h2 ht hu,
    readLoop_fed_conserve hrl hf acc, fun hl hm => ?_, fun _ => h4⟩
  · have := h3 hm
    simp only [room, hl, Bool.false_eq_true, if_false] at this hL
    rw [List.length_append, Nat.le_antisymm hL (Nat.le_of_not_lt this)]

theorem dataRead_spec : ∀ (fuel : Nat) (r : DR) (w : W) (k : Nat) (acc : Bytes), WF w →
    ReadSpec fuel r w k acc (dataRead fuel r w k acc) := by
  intro fuel r w k acc
  fun_induction dataRead fuel r w k acc with
  | case1 r w k acc =>
    -- no fuel
    exact fun hwf => ⟨hwf, id, fun _ => ⟨[], (List.append_nil _).symm, RunD.rfl' _ _⟩, nofun,
      fun _ _ h => absurd h (Nat.not_lt_zero _), Nat.le_refl _, nofun, nofun⟩
  | case2 fuel r w k acc h0 w1 p hp hm =>
    -- budget used up, and `Peek(3)` shows the end marker at the beginning of a line
    intro hwf
    obtain ⟨hf, htk⟩ := peek3_fed (fuelOf w) w
    rw [hp] at hf htk
    have hlim : r.limited = false → False := fun h => by rw [h] at h0; cases h0
    rw [Bool.and_eq_true, beq_iff_eq] at hm
    have hbuf : w1.buf = Spec.marker ++ w1.buf.drop 3 := by
      rw [show Spec.marker = w1.buf.take 3 from (beq_iff_eq.mp (htk ▸ hm.2)).symm, List.take_append_drop]
    generalize w1.buf.drop 3 = t at hbuf ⊢
    have hwf1 := hf.wf hwf
    refine ⟨⟨hwf1.ne, hwf1.err⟩, hf.trip, fun ht => ⟨[], (List.append_nil _).symm, ?_⟩, fun _ => rfl, nofun, ?_,
      fun h => (hlim h).elim, fun h => (hlim h).elim⟩
    · rw [hm.1, ← hf.pending ht, pending, hbuf, List.append_assoc]
      exact runD_marker _
    · have := hf.mu
      simp only [mu, held, hbuf, List.length_append] at this ⊢
      omega
  | case3 fuel r w k acc h0 w1 p hp hm =>
    -- budget used up and no marker: "too large"
    intro hwf
    have hf := (peek3_fed (fuelOf w) w).1
    rw [hp] at hf
    exact ⟨hf.wf hwf, hf.trip, fun ht => ⟨[], (List.append_nil _).symm, by rw [hf.pending ht]; exact RunD.rfl' _ _⟩,
      nofun, nofun, Nat.add_le_add_right (Nat.add_le_add_right hf.mu _) _, nofun, fun h => by rw [h] at h0; cases h0⟩
  | case4 fuel r w k acc h0 k' s' out rest hrl r' w' acc' he =>
    -- the loop consumed the end marker
    exact fun hwf => .leaf hwf hrl (.refl _) (fun _ => eq_of_beq he) nofun nofun nofun
  | case5 fuel r w k acc h0 k' s' out rest hrl r' w' acc' he hlt e hw =>
    -- the buffer ran dry with an error latched
    intro hwf
    obtain rfl := readLoop_dry hrl he hlt
    exact .leaf hwf hrl (.clear _) nofun (fun ht _ => (WF_buf hwf []).dry rfl (by rw [show w.err = some e from hw]; rfl) ht) nofun nofun
  | case6 fuel r w k acc h0 k' s' out rest hrl r' w' acc' he hlt hw w2 hemp e he2 =>
    -- the refill latched an error
    intro hwf
    obtain rfl := readLoop_dry hrl he hlt
    have hfed : Fed w' w2 := fill_fed w' hw
    exact .leaf hwf hrl (hfed.trans (.clear _)) nofun
      (fun ht _ => ((Fed.clear w2).pending ht).trans
        ((hfed.wf (WF_buf hwf _)).dry (List.isEmpty_iff.mp hemp) (by rw [he2]; rfl) ht)) nofun nofun
  | case7 fuel r w k acc h0 k' s' out rest hrl r' w' acc' he hlt hw w2 hemp he2 =>
    -- the refill neither added octets nor latched: not from a well-formed source
    intro hwf
    obtain rfl := readLoop_dry hrl he hlt
    rcases fill_progress (WF_buf hwf []) (show 0 < bufSize by decide) with h | h
    · rw [show (fill w').err = none from he2] at h; cases h
    · rw [show (fill w').buf = [] from List.isEmpty_iff.mp hemp] at h; cases h
  | case8 fuel r w k acc h0 k' s' out rest hrl r' w' acc' he hlt hw w2 hemp r2 w3 acc2 res e hrec ih =>
    -- the same `Read` goes on in what the refill brought
    intro hwf
    obtain rfl := readLoop_dry hrl he hlt
    have hfed : Fed w' w2 := fill_fed w' hw
    have I := ih (hfed.wf (WF_buf hwf _))
    rw [hrec] at I
    have hA := readLoop_append r.state w.buf k' w.segs.flatten
    rw [hrl] at hA
    have hmu : sm w2.segs + w2.buf.length ≤ sm w.segs := hfed.mu
    have hpos : 0 < w2.buf.length := List.length_pos_iff.mpr fun h => hemp (by rw [h]; rfl)
    refine ⟨I.wf, fun h => I.trip (hfed.trip h), fun h => ?_, I.eof, fun h hu hfu => I.dry h hu ?_,
      Nat.le_trans I.cons (readLoop_fed_conserve hrl hfed acc), fun hl hm => ?_, fun _ => I.notLarge rfl⟩
    · obtain ⟨out2, ha, hr⟩ := I.run h
      refine ⟨out ++ out2, ha.trans (List.append_assoc ..), RunD.trans ?_ hr⟩
      rw [hfed.pending (not_tripped_of I.trip h)]
      exact hA
    · exact Nat.lt_of_lt_of_le (Nat.lt_of_lt_of_le (Nat.lt_add_of_pos_right hpos) hmu) (Nat.le_of_lt_succ hfu)
    · have hk : k' = k := by show (if r.limited = true then _ else _) = _; rw [hl]; rfl
      rw [I.full rfl hm, List.length_append, Nat.add_assoc, Nat.add_sub_cancel' (Nat.le_of_lt hlt), hk]
  | case9 fuel r w k acc h0 k' s' out rest hrl r' w' acc' he hlt =>
    -- buffer full
    exact fun hwf => .leaf hwf hrl (.refl _) nofun nofun (fun _ => hlt) nofun

theorem backendRead_spec : ∀ (fuel : Nat) (r : DR) (w : W) (want : Option Nat) (rsz : Nat) (acc : Bytes), WF w →
    WF (backendRead fuel r w want rsz acc).2.1 ∧
    (w.tripped = true → (backendRead fuel r w want rsz acc).2.1.tripped = true) ∧
    ((backendRead fuel r w want rsz acc).2.1.tripped = false →
      ∃ out, (backendRead fuel r w want rsz acc).2.2.1 = acc ++ out ∧
        RunD r.state (pending w) (backendRead fuel r w want rsz acc).1.state (pending (backendRead fuel r w want rsz acc).2.1) out) := by
  intro fuel r w want rsz acc
  fun_induction backendRead fuel r w want rsz acc with
  | case1 | case2 => exact fun hwf => ⟨hwf, id, fun _ => ⟨[], (List.append_nil _).symm, RunD.rfl' _ _⟩⟩
  | case3 fuel r w want rsz acc k hk r' w' out e hd ih =>
    -- a `nil` read: the backend reads on
    intro hwf
    have d := hd ▸ dataRead_spec (fuelOf w) r w k [] hwf
    obtain ⟨i1, i2, i3⟩ := ih d.wf
    refine ⟨i1, fun h => i2 (d.trip h), fun ht => ?_⟩
    obtain ⟨out2, ha, hr⟩ := i3 ht
    obtain ⟨o1, ho1, hr1⟩ := d.run (not_tripped_of i2 ht)
    cases (List.nil_append o1 ▸ ho1 : out = o1)
    exact ⟨out ++ out2, by rw [ha, List.append_assoc], hr1.trans hr⟩
  | case4 fuel r w want rsz acc k hk r' w' out res e hd hres =>
    -- the read that ends it
    intro hwf
    have d := hd ▸ dataRead_spec (fuelOf w) r w k [] hwf
    refine ⟨d.wf, d.trip, fun ht => ?_⟩
    obtain ⟨o1, ho1, hr1⟩ := d.run ht
    cases (List.nil_append o1 ▸ ho1 : out = o1)
    exact ⟨out, rfl, hr1⟩

theorem drain_spec : ∀ (fuel : Nat) (r : DR) (w : W), WF w → mu w + held r.state < fuel →
    WF (drain fuel r w) ∧ (w.tripped = true → (drain fuel r w).tripped = true) ∧
    ((drain fuel r w).tripped = false →
      pending (drain fuel r w) = [] ∨ ∃ out, RunD r.state (pending w) .eof (pending (drain fuel r w)) out) := by
  intro fuel r w
  fun_induction drain fuel r w with
  | case1 r w => intro _ h; exact absurd h (Nat.not_lt_zero _)
  | case2 fuel r w r' w' out e hd ih =>
    -- a full buffer drained: on with the next
    intro hwf hfu
    have d := hd ▸ dataRead_spec (fuelOf w) { r with limited := false } w 8192 [] hwf
    have hlen : out.length = 0 + 8192 := d.full rfl rfl
    have hd6 : mu w' + out.length + held r'.state ≤ mu w + 0 + held r.state := d.cons
    obtain ⟨i1, i2, i3⟩ := ih d.wf (by omega)
    refine ⟨i1, fun h => i2 (d.trip h), fun ht => ?_⟩
    obtain ⟨o1, _, hr1⟩ := d.run (not_tripped_of i2 ht)
    exact (i3 ht).imp_right fun ⟨o2, hr2⟩ => ⟨o1 ++ o2, hr1.trans hr2⟩
  | case3 fuel r w r' w' out res e hd hres =>
    -- the read that ends the drain
    intro hwf _
    have d := hd ▸ dataRead_spec (fuelOf w) { r with limited := false } w 8192 [] hwf
    refine ⟨d.wf, d.trip, fun ht => ?_⟩
    cases res with
    | more => exact (hres rfl).elim
    | eof =>
      obtain ⟨o1, _, hr1⟩ := d.run ht
      exact .inr ⟨o1, (d.eof rfl : r'.state = .eof) ▸ hr1⟩
    | ueof => exact .inl (d.dry ht rfl (fuelOf_gt w))
    | tooLarge => exact absurd rfl (d.notLarge rfl)

theorem wireFuel_ok (w : W) (r : DR) : mu w + held r.state < wireFuel w := by
  have := held_le_one r.state
  simp only [wireFuel, fuelOf_eq]; omega

/-- what one `dataReader.Read` call stores (C06), `x` being its result -/
structure Budget (r : DR) (k : Nat) (acc : Bytes) (x : DR × W × Bytes × Res × Option RErr) : Prop where
  ge : acc.length ≤ x.2.2.1.length
  le : x.2.2.1.length ≤ acc.length + k
  lim : x.1.limited = r.limited
  bud : r.limited = true → x.2.2.1.length ≤ acc.length + r.n ∧ x.1.n = r.n - (x.2.2.1.length - acc.length)

theorem Budget.none {r r' : DR} {k : Nat} {acc : Bytes} {w' : W} {res : Res} {e : Option RErr} (h1 : r'.limited = r.limited)
    (h2 : r'.n = r.n) : Budget r k acc (r', w', acc, res, e) :=
  ⟨Nat.le_refl _, Nat.le_add_right _ _, h1, fun _ => ⟨Nat.le_add_right _ _, by simp [h2]⟩⟩

theorem Budget.loop {r : DR} {k : Nat} {acc : Bytes} {s' : St} {out rest inp : Bytes} {w' : W} {res : Res} {e : Option RErr}
    (hrl : readLoop r.state inp (room r k) = (s', out, rest)) :
    Budget r k acc ({ r with state := s', n := if r.limited then r.n - out.length else r.n }, w', acc ++ out, res, e) := by
  have hL := hrl ▸ readLoop_len r.state inp (room r k)
  have hk := room_le r k
  dsimp only at hL
  refine ⟨?_, ?_, rfl, fun hl => ⟨?_, ?_⟩⟩ <;> simp only [List.length_append]
  · exact Nat.le_add_right _ _
  · exact Nat.add_le_add_left (Nat.le_trans hL hk.1) _
  · exact Nat.add_le_add_left (Nat.le_trans hL (hk.2 hl)) _
  · rw [Nat.add_sub_cancel_left]; exact if_pos hl

theorem dataRead_budgeted (fuel : Nat) (r : DR) (w : W) (k : Nat) (acc : Bytes) : Budget r k acc (dataRead fuel r w k acc) := by
  fun_induction dataRead fuel r w k acc with
  | case1 | case2 | case3 => exact .none rfl rfl   -- no fuel, or the budget used up: nothing is stored
  | case4 _ _ _ _ _ _ _ _ _ _ hrl | case5 _ _ _ _ _ _ _ _ _ _ hrl | case6 _ _ _ _ _ _ _ _ _ _ hrl | case7 _ _ _ _ _ _ _ _ _ _ hrl
  | case9 _ _ _ _ _ _ _ _ _ _ hrl => exact .loop hrl   -- every way out but the refill: what one loop has stored
  | case8 fuel r w k acc h0 k' s' out rest hrl r' w' acc' he hlt hw w2 hemp r2 w3 acc2 res e hrec ih =>
    -- the same `Read` goes on after a refill, with what is left of the space
    rw [hrec] at ih
    have hk : k' ≤ k ∧ (r.limited = true → k' ≤ r.n) := room_le r k
    have h1 : acc.length + out.length ≤ acc2.length := List.length_append ▸ ih.ge
    have h2 : acc2.length ≤ acc.length + k' := by
      have := ih.le
      rwa [List.length_append, Nat.add_assoc, Nat.add_sub_cancel' (Nat.le_of_lt hlt)] at this
    exact ⟨Nat.le_trans (Nat.le_add_right _ _) h1, Nat.le_trans h2 (Nat.add_le_add_left hk.1 _), rfl, fun hl =>
      ⟨Nat.le_trans h2 (Nat.add_le_add_left (hk.2 hl) _), if_pos hl⟩⟩

theorem dataRead_budget : ∀ (fuel : Nat) (r : DR) (w : W) (k : Nat) (acc : Bytes),
    acc.length ≤ (dataRead fuel r w k acc).2.2.1.length ∧
    (dataRead fuel r w k acc).2.2.1.length ≤ acc.length + k ∧
    (dataRead fuel r w k acc).1.limited = r.limited ∧
    (r.limited = true → (dataRead fuel r w k acc).2.2.1.length ≤ acc.length + r.n ∧
      (dataRead fuel r w k acc).1.n = r.n - ((dataRead fuel r w k acc).2.2.1.length - acc.length)) :=
  fun fuel r w k acc => have h := dataRead_budgeted fuel r w k acc; ⟨h.ge, h.le, h.lim, h.bud⟩

theorem backendRead_budget : ∀ (fuel : Nat) (r : DR) (w : W) (want : Option Nat) (rsz : Nat) (acc : Bytes), r.limited = true →
    (backendRead fuel r w want rsz acc).2.2.1.length ≤ acc.length + r.n := by
  intro fuel r w want rsz acc
  fun_induction backendRead fuel r w want rsz acc with
  | case1 | case2 => exact fun _ => Nat.le_add_right _ _
  | case3 fuel r w want rsz acc k hk r' w' out e hd ih =>
    -- a `nil` read: the backend reads on, with what is left of the budget
    intro hl
    have b := hd ▸ dataRead_budgeted (fuelOf w) r w k []
    refine Nat.le_trans (ih (b.lim.trans hl)) (Nat.le_of_eq ?_)
    obtain ⟨h1, h2⟩ := b.bud hl
    simp only [List.length_append, List.length_nil, Nat.zero_add, Nat.sub_zero] at h1 h2 ⊢
    rw [h2, Nat.add_assoc, Nat.add_sub_cancel' h1]
  | case4 fuel r w want rsz acc k hk r' w' out res e hd hres =>
    -- the read that ends it
    intro hl
    have := ((hd ▸ dataRead_budgeted (fuelOf w) r w k []).bud hl).1
    simp only [List.length_append, List.length_nil, Nat.zero_add] at this ⊢
    exact Nat.add_le_add_left this _

end SmtpV.Server
