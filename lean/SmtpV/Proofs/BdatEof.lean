import SmtpV.Proofs.Framing
/-!
C07 for chunked transfers: the reader of a `Data` call fed by BDAT chunks reports end-of-file only when the LAST chunk has been
copied completely; abandoning the transfer (RSET, QUIT, a new greeting, STARTTLS, loss of the connection: everything that
goes through `resetConn` / `closeConn`) ends it with `ErrDataReset`, never with EOF.
-/
namespace SmtpV.Server
open SmtpV SmtpV.Wire SmtpV.Spec

theorem nne_copyChunk (fuel : Nat) (s : S) (k n cap : Nat) (hl : s.w.limit = 0) : NoNewEof s (copyChunk fuel s k n cap).1 :=
  copyChunk_rel (R := fun _ => NoNewEof) .rfl' .trans (fun _ h => h) (fun _ _ => .of_drecs rfl)
    k (fun s bs => (delivWrite_recs s k bs).2) fuel s n cap hl

theorem bdatAfterCopy_eof (s : S) (k size left : Nat) (last : Bool) (ce : CopyEnd) (j : Nat)
    (h : eofAt (bdatAfterCopy s k size left last ce).1 j) : eofAt s j ∨ (last = true ∧ ce = .done) := by
  rcases bdatAfterCopy_cases s k size left last ce with ⟨err, he⟩ | ⟨_, _, he⟩ | ⟨hl, hc, _⟩
  · obtain ⟨s', hs', hq, _⟩ := bdatFail_shape s k left last err
    rw [he, hs'] at h
    exact .inl ((NoNewEof.of_drecs (s' := setW s _) rfl).trans (hq.eof.trans (.of_drecs rfl)) j h)
  · rw [he] at h
    exact .inl ((quiet_write (armLimit (addBytesReceived s size)) _).eof j h)
  · exact .inr ⟨hl, hc⟩

theorem bdatChunk_eof (s : S) (size : Nat) (last : Bool) (j : Nat) (h : eofAt (bdatChunk s size last).1 j) :
    eofAt s j ∨ last = true := by
  unfold bdatChunk at h
  dsimp only at h
  have b := (quiet_setBdatStatus s).eof.trans (bdatBegin_frame _).eof
  generalize bdatBegin (setBdatStatus s) = p at b h
  rcases bdatAfterCopy_eof _ _ _ _ _ _ j h with h | h
  · exact .inl (b j (nne_copyChunk _ (setLimit p.1 0) _ _ _ rfl j h))
  · exact .inr h.1

theorem delivFinish_rec (s : S) (k : Nat) (e : RdEnd) (d : DRec) (hd : s.drecs[k]? = some d) :
    ∃ d', (delivFinish s k e).drecs[k]? = some d' ∧ d'.rdEnd = e ∧ d'.finished = true := by
  unfold delivFinish
  dsimp only
  cases delivOutcome s k e == .panic <;> exact ⟨_, setDrec_get_self hd _, rfl, rfl⟩

theorem abortBdat_reset (s : S) (k : Nat) (hb : s.c.bdat = some k) (hr : delivRunning s k = true) :
    ∃ d', (abortBdat s).drecs[k]? = some d' ∧ d'.rdEnd = .reset ∧ d'.finished = true := by
  unfold abortBdat
  simp only [hb]
  unfold delivAbort
  simp only [hr, if_true]
  obtain ⟨d, hd, _⟩ := delivRunning_rec hr
  exact delivFinish_rec s k .reset d hd

end SmtpV.Server
