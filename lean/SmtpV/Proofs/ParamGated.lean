import SmtpV.Proofs.ByteEq
import SmtpV.Model.Client
/-!
Each piece of the client's MAIL and RCPT parameter strings (`bodyParam` … `rrvsParam`) is empty or — only with its extension
among the capabilities of the latest EHLO (`ext`) — the one parameter; `mailParams` and `rcptParams` concatenate their pieces
(C15: nothing is sent for an extension that was not offered).
-/
namespace SmtpV.Client
open SmtpV SmtpV.Text SmtpV.Xtext

theorem gate (e : Bool) (x : Bytes) : (if e then x else []) = [] ∨ (e = true ∧ (if e then x else []) = x) := by
  cases e
  · exact .inl rfl
  · exact .inr ⟨rfl, rfl⟩

theorem bodyParam_gated (ext : List (Bytes × Bytes)) (o : Option MailOptions) (b : Bytes) (h : bodyParam ext o = some b) :
    b = [] ∨ (hasExt ext "8BITMIME" = true ∧ (b = " BODY=7BIT".b ∨ b = " BODY=8BITMIME".b)) ∨
      (hasExt ext "BINARYMIME" = true ∧ b = " BODY=BINARYMIME".b) := by
  revert h
  -- 7BIT; 8BITMIME; BINARYMIME offered; BINARYMIME not offered and any other value: local errors
  fun_cases bodyParam ext o with
  | case1 => rintro ⟨⟩; exact (gate _ _).imp_right fun ⟨h, e⟩ => .inl ⟨h, .inl e⟩
  | case2 => rintro ⟨⟩; exact (gate _ _).imp_right fun ⟨h, e⟩ => .inl ⟨h, .inr e⟩
  | case3 _ _ _ _ he => exact fun h => .inr (.inr ⟨he, (Option.some.inj h).symm⟩)
  | case4 | case5 => nofun

theorem bodyParam_none (ext : List (Bytes × Bytes)) :
    bodyParam ext none = some (if hasExt ext "8BITMIME" then " BODY=8BITMIME".b else []) := by
  unfold bodyParam
  rw [if_neg (by decide +kernel), if_pos (by decide +kernel)]

theorem sizeParam_gated (ext : List (Bytes × Bytes)) (o : MailOptions) :
    sizeParam ext o = [] ∨ (hasExt ext "SIZE" = true ∧ sizeParam ext o = " SIZE=".b ++ intToDec o.size) :=
  (gate _ _).imp_right fun ⟨h, e⟩ => ⟨(Bool.and_eq_true_iff.mp h).1, e⟩

theorem flag_gated {flag e : Bool} {tok t : Bytes} (h : (if flag then (if e then some tok else none) else some []) = some t) :
    (t = [] ∧ flag = false) ∨ (e = true ∧ flag = true ∧ t = tok) := by
  cases flag <;> cases e <;> cases h
  · exact .inl ⟨rfl, rfl⟩
  · exact .inl ⟨rfl, rfl⟩
  · exact .inr ⟨rfl, rfl, rfl⟩

theorem requireTLSParam_gated (ext : List (Bytes × Bytes)) (o : MailOptions) (t : Bytes) (h : requireTLSParam ext o = some t) :
    (t = [] ∧ o.requireTLS = false) ∨ (hasExt ext "REQUIRETLS" = true ∧ o.requireTLS = true ∧ t = " REQUIRETLS".b) :=
  flag_gated h

theorem utf8Param_gated (ext : List (Bytes × Bytes)) (o : MailOptions) (u : Bytes) (h : utf8Param ext o = some u) :
    (u = [] ∧ o.utf8 = false) ∨ (hasExt ext "SMTPUTF8" = true ∧ o.utf8 = true ∧ u = " SMTPUTF8".b) :=
  flag_gated h

theorem retParam_shape (o : MailOptions) (r : Bytes) (h : retParam o = some r) :
    r = [] ∨ r = " RET=FULL".b ∨ r = " RET=HDRS".b := by
  revert h
  -- no RET; FULL; HDRS; any other value: a local error
  fun_cases retParam o with
  | case1 => rintro ⟨⟩; exact .inl rfl
  | case2 => rintro ⟨⟩; exact .inr (.inl rfl)
  | case3 => rintro ⟨⟩; exact .inr (.inr rfl)
  | case4 => nofun

theorem envidParam_shape (o : MailOptions) (e : Bytes) (h : envidParam o = some e) :
    e = [] ∨ e = " ENVID=".b ++ encodeXtext o.envid := by
  revert h
  -- no ENVID; not printable ASCII: a local error; the xtext of it
  fun_cases envidParam o with
  | case1 => rintro ⟨⟩; exact .inl rfl
  | case2 => nofun
  | case3 => rintro ⟨⟩; exact .inr rfl

theorem dsnMailParams_gated (ext : List (Bytes × Bytes)) (o : MailOptions) (d : Bytes) (h : dsnMailParams ext o = some d) :
    d = [] ∨ (hasExt ext "DSN" = true ∧ ∃ r e, retParam o = some r ∧ envidParam o = some e ∧ d = r ++ e) := by
  revert h
  -- DSN offered and both pieces there; offered and one of them a local error; not offered
  fun_cases dsnMailParams ext o with
  | case1 he r e hen hr => rintro ⟨⟩; exact .inr ⟨he, r, e, hr, hen, rfl⟩
  | case2 => nofun
  | case3 => rintro ⟨⟩; exact .inl rfl

theorem authParam_gated (ext : List (Bytes × Bytes)) (o : MailOptions) :
    authParam ext o = [] ∨ (hasExt ext "AUTH" = true ∧ ∃ a, o.auth = some a ∧
      authParam ext o = (if a.isEmpty then " AUTH=<>".b else " AUTH=".b ++ encodeXtext a)) := by
  unfold authParam
  split
  · rename_i a ha
    exact (gate _ _).imp_right fun ⟨h, e⟩ => ⟨h, a, ha, e⟩
  · exact .inl rfl

theorem mailParams_gated (ext : List (Bytes × Bytes)) (o : MailOptions) (p : Bytes) (h : mailParams ext (some o) = some p) :
    ∃ b t u d, bodyParam ext (some o) = some b ∧ requireTLSParam ext o = some t ∧ utf8Param ext o = some u ∧
      dsnMailParams ext o = some d ∧ p = b ++ sizeParam ext o ++ t ++ u ++ d ++ authParam ext o := by
  unfold mailParams at h
  split at h
  · cases h
  · rename_i b hb
    dsimp only at h
    split at h
    · rename_i t u d ht hu hd
      cases h
      exact ⟨b, t, u, d, hb, ht, hu, hd, rfl⟩
    · cases h

theorem mailParams_none (ext : List (Bytes × Bytes)) : mailParams ext none = bodyParam ext none := by
  unfold mailParams
  cases bodyParam ext none <;> rfl

theorem notifyOk_words {P : Bytes → Prop} {vals : List Bytes} (h : notifyOk vals = true)
    (hP : P "NEVER".b ∧ P "DELAY".b ∧ P "FAILURE".b ∧ P "SUCCESS".b) : vals ≠ [] ∧ ∀ v ∈ vals, P v := by
  simp only [notifyOk, Bool.and_eq_true, Bool.not_eq_true', List.isEmpty_eq_false_iff, List.all_eq_true, Bool.or_eq_true,
    beq_iff_eq] at h
  refine ⟨h.1.1.1, fun v hv => ?_⟩
  rcases h.1.1.2 v hv with ((e | e) | e) | e <;> rw [e]
  · exact hP.1
  · exact hP.2.1
  · exact hP.2.2.1
  · exact hP.2.2.2

theorem notifyParam_shape (o : RcptOptions) (n : Bytes) (h : notifyParam o = some n) :
    n = [] ∨ (notifyOk o.notify = true ∧ n = " NOTIFY=".b ++ List.intercalate [44] o.notify) := by
  revert h
  -- no NOTIFY; an invalid list: a local error; the list joined by commas
  fun_cases notifyParam o with
  | case1 => rintro ⟨⟩; exact .inl rfl
  | case2 => nofun
  | case3 _ hok => rintro ⟨⟩; exact .inr ⟨by simpa using hok, rfl⟩

theorem orcptParam_shape (ext : List (Bytes × Bytes)) (o : RcptOptions) (oc : Bytes) (h : orcptParam ext o = some oc) :
    oc = [] ∨ oc = " ORCPT=RFC822;".b ++ encodeXtext o.orcpt ∨
      oc = " ORCPT=UTF-8;".b ++ (if hasExt ext "SMTPUTF8" then encodeUTF8AddrUnitext o.orcpt else encodeUTF8AddrXtext o.orcpt) := by
  revert h
  -- no ORCPT; rfc822 not printable ASCII: a local error; rfc822; utf-8; any other type: a local error
  fun_cases orcptParam ext o with
  | case1 => rintro ⟨⟩; exact .inl rfl
  | case3 => rintro ⟨⟩; exact .inr (.inl rfl)
  | case4 => rintro ⟨⟩; exact .inr (.inr rfl)
  | case2 | case5 => nofun

theorem rrvsParam_gated (ext : List (Bytes × Bytes)) (o : RcptOptions) :
    rrvsParam ext o = [] ∨ (hasExt ext "RRVS" = true ∧ ∃ t, o.rrvs = some t ∧ rrvsParam ext o = " RRVS=".b ++ formatRFC3339 t.1 t.2) := by
  unfold rrvsParam
  split
  · rename_i t ht
    exact (gate _ _).imp_right fun ⟨h, e⟩ => ⟨h, t, ht, e⟩
  · exact .inl rfl

theorem rcptParams_gated (ext : List (Bytes × Bytes)) (o : RcptOptions) (p : Bytes) (h : rcptParams ext o = some p) :
    ∃ n oc, p = n ++ oc ++ rrvsParam ext o ∧
      ((n = [] ∧ oc = []) ∨ (hasExt ext "DSN" = true ∧ notifyParam o = some n ∧ orcptParam ext o = some oc)) := by
  revert h
  -- the cases of `dsnMailParams_gated`
  fun_cases rcptParams ext o with
  | case1 he n oc hoc hn => rintro ⟨⟩; exact ⟨n, oc, rfl, .inr ⟨he, hn, hoc⟩⟩
  | case2 => nofun
  | case3 => rintro ⟨⟩; exact ⟨[], [], rfl, .inl ⟨rfl, rfl⟩⟩

end SmtpV.Client
