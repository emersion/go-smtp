import SmtpV.Proofs.ByteEq
import SmtpV.Model.Client
/-!
Every client operation below the data calls is a run (`Run`) of commands (`cmd`) and of bookkeeping steps that leave transport
and writer alone (reading a reply is one): what these steps respect, the operations respect.  What a command does is read off
once, by cases (`*_cases`).  The methods that send one command are one table (`Call.oneCmd`) and one lemma (`OneCmd.run_spec`).
-/
namespace SmtpV.Client
open SmtpV

/-- no data writer open and nothing held back in the writer's buffer (a client that has not begun a message) -/
def Idle (c : C) : Prop := c.dot = none ∧ c.wbuf = []

/-- the lines `initStartTLS` may put on the raw socket -/
def upgradeLines (c : C) : List Bytes :=
  [(if c.lmtp then "LHLO ".b else "EHLO ".b) ++ c.localName ++ crlf, "HELO ".b ++ c.localName ++ crlf, "STARTTLS".b ++ crlf]

def helloLines (c : C) : List Bytes :=
  [(if c.lmtp then "LHLO ".b else "EHLO ".b) ++ c.localName ++ crlf, "HELO ".b ++ c.localName ++ crlf]

theorem upgradeLines_eq (c : C) : upgradeLines c = helloLines c ++ ["STARTTLS".b ++ crlf] := rfl

/-- lines the implicit hello may still need: none once a hello was done, else EHLO and possibly HELO -/
def helloBudget (c : C) : Nat := if c.didHello then 0 else 2

/-- bookkeeping: transport and writer fields are as they were; a closed connection stays closed, a clean host name stays clean
    (an implication where `Fixed` has an equation: `Hello(name)` replaces the host name by one it has checked, and that is
    a step of this kind) -/
structure Calm (c c' : C) : Prop where
  dot : c'.dot = c.dot := by exact rfl
  wbuf : c'.wbuf = c.wbuf := by exact rfl
  out : c'.out = c.out := by exact rfl
  plainLog : c'.plainLog = c.plainLog := by exact rfl
  tlsPending : c'.tlsPending = c.tlsPending := by exact rfl
  tlsState : c'.tlsState = c.tlsState := by exact rfl
  closed : c.connClosed = true → c'.connClosed = true := by exact id
  name : validLine c.localName = true → validLine c'.localName = true := by exact id

/-- mode, host name and recipient list are as they were: what no I/O step and no step of the greeting exchange changes -/
structure Fixed (c c' : C) : Prop where
  lmtp : c'.lmtp = c.lmtp := by exact rfl
  localName : c'.localName = c.localName := by exact rfl
  rcpts : c'.rcpts = c.rcpts := by exact rfl

theorem Fixed.trans {a b c : C} (h1 : Fixed a b) (h2 : Fixed b c) : Fixed a c :=
  ⟨h2.lmtp.trans h1.lmtp, h2.localName.trans h1.localName, h2.rcpts.trans h1.rcpts⟩

structure Quiet (c c' : C) : Prop extends Calm c c', Fixed c c'

/-- `c'` is reached from `c` by `Q`-steps and at most `n` commands, each with a line in `L` -/
inductive Run (Q : C → C → Prop) (L : Bytes → Prop) : C → Nat → C → Prop
  | nil (c : C) (n : Nat) : Run Q L c n c
  | quiet {c n c1 c2} : Run Q L c n c1 → Q c1 c2 → Run Q L c n c2
  | cmd {c n c1} (k : Nat) {l : Bytes} : Run Q L c n c1 → L l → Run Q L c (n + 1) (c1.cmd k l).1

namespace Run
variable {Q Q' : C → C → Prop} {L L' : Bytes → Prop} {a b c c' : C} {n m : Nat}

theorem le (h : Run Q L c n c') (hnm : n ≤ m) : Run Q L c m c' := by
  induction h generalizing m with
  | nil => exact .nil _ _
  | quiet _ q ih => exact (ih hnm).quiet q
  | cmd k _ hl ih =>
    cases m with
    | zero => exact absurd hnm (Nat.not_succ_le_zero _)
    | succ j => exact (ih (Nat.le_of_succ_le_succ hnm)).cmd k hl

theorem trans (h1 : Run Q L a n b) (h2 : Run Q L b m c) : Run Q L a (n + m) c := by
  induction h2 with
  | nil => exact h1.le (Nat.le_add_right _ _)
  | quiet _ q ih => exact ih.quiet q
  | cmd k _ hl ih => exact ih.cmd k hl

theorem mono (hq : ∀ a b, Q a b → Q' a b) (hl : ∀ l, L l → L' l) (h : Run Q L c n c') : Run Q' L' c n c' := by
  induction h with
  | nil => exact .nil _ _
  | quiet _ q ih => exact ih.quiet (hq _ _ q)
  | cmd k _ h ih => exact ih.cmd k (hl _ h)

theorem calm (hl : ∀ l, L l → L' l) (h : Run Quiet L c n c') : Run Calm L' c n c' := h.mono (fun _ _ q => q.toCalm) hl

end Run

theorem read_quiet (c : C) (n : Nat) : Quiet c (c.read n).1 := by unfold C.read; exact {}

theorem handshake_cases (c : C) :
    c.tlsPending = false ∧ c.handshake = c ∨
    (∃ sc, c.handshake = { c with tlsPending := false, tlsState := "ok", peer := { script := sc, defRep := [] } }) ∨
    c.handshake = { c with tlsPending := false, tlsState := "failed", connClosed := true } := by
  unfold C.handshake
  cases c.tlsPending with
  | false => exact .inl ⟨rfl, rfl⟩
  | true =>
    cases c.inner with
    | some sc => exact .inr (.inl ⟨sc, rfl⟩)
    | none => exact .inr (.inr rfl)

theorem send_cases {c c1 : C} (h : c.handshake = c1) (bs : Bytes) :
    c.send bs = ({ c1 with wbuf := [] }, false) ∨
    c1.connClosed = false ∧ c.send bs =
      ({ c1 with peer := c1.peer.feed (c1.wbuf ++ bs), out := c1.out ++ (c1.wbuf ++ bs), wbuf := [],
                 plainLog := if c1.tlsState == "ok" then c1.plainLog else c1.plainLog ++ (c1.wbuf ++ bs),
                 innerLog := if c1.tlsState == "ok" then c1.innerLog ++ (c1.wbuf ++ bs) else c1.innerLog }, true) := by
  unfold C.send
  rw [h]
  dsimp only
  cases hc : c1.connClosed
  · cases c1.activePeer && c1.peer.eof
    · exact .inr ⟨rfl, rfl⟩
    · exact .inl rfl
  · exact .inl rfl

theorem closeDot_cases (c : C) : c.closeDot = (c, []) ∨ ∃ pre, c.closeDot = ({ c with dot := none }, pre) := by
  unfold C.closeDot
  cases c.dot with
  | none => exact .inl rfl
  | some i => exact .inr ⟨_, rfl⟩

theorem cmd_cases {c c1 : C} {pre : Bytes} (h : c.closeDot = (c1, pre)) (n : Nat) (l : Bytes) :
    c.cmd n l = ((c1.send (pre ++ l ++ crlf)).1, .io) ∨ c.cmd n l = (c1.send (pre ++ l ++ crlf)).1.read n := by
  unfold C.cmd
  rw [h]
  dsimp only
  generalize c1.send (pre ++ l ++ crlf) = q
  obtain ⟨c2, b⟩ := q
  cases b
  · exact .inl rfl
  · exact .inr rfl

theorem send_fixed (c : C) (bs : Bytes) : Fixed c (c.send bs).1 := by
  have h : Fixed c c.handshake := by rcases handshake_cases c with ⟨_, e⟩ | ⟨_, e⟩ | e <;> rw [e] <;> exact {}
  rcases send_cases rfl bs with e | ⟨_, e⟩ <;> rw [e] <;> exact ⟨h.lmtp, h.localName, h.rcpts⟩

theorem cmd_fixed (c : C) (n : Nat) (l : Bytes) : Fixed c (c.cmd n l).1 := by
  have h0 : Fixed c c.closeDot.1 := by rcases closeDot_cases c with e | ⟨_, e⟩ <;> rw [e] <;> exact {}
  have h1 := h0.trans (send_fixed c.closeDot.1 (c.closeDot.2 ++ l ++ crlf))
  rcases cmd_cases rfl n l with e | e <;> rw [e]
  · exact h1
  · exact h1.trans (read_quiet _ n).toFixed

theorem Run.fixed {L} {c c' : C} {n : Nat} (h : Run Quiet L c n c') : Fixed c c' := by
  induction h with
  | nil => exact {}
  | quiet _ q ih => exact ih.trans q.toFixed
  | cmd k _ _ ih => exact ih.trans (cmd_fixed _ k _)

theorem Run.name {L} {c c' : C} {n : Nat} (h : Run Calm L c n c') (hn : validLine c.localName = true) :
    validLine c'.localName = true := by
  induction h with
  | nil => exact hn
  | quiet _ q ih => exact q.name ih
  | cmd k _ _ ih => rw [(cmd_fixed _ k _).localName]; exact ih

theorem greet_run {L} (c : C) : Run Quiet L c 0 c.greet.1 := by
  unfold C.greet
  by_cases hg : c.didGreet = true
  · rw [if_pos hg]; exact .nil c 0
  · have h : Run Quiet L c 0 _ := (Run.quiet (c2 := { c with didGreet := true }) (.nil c 0) {}).quiet (read_quiet _ 220)
    rw [if_neg hg]
    dsimp only
    generalize C.read { c with didGreet := true } 220 = p at h ⊢
    obtain ⟨c1, r⟩ := p
    have h' := h.quiet (c2 := { c1 with greetErr := rrErr r, connClosed := true }) { closed := fun _ => rfl }
    cases r with
    | ok code msg => exact h
    | _ => exact h'

theorem hello_run (c : C) : Run Quiet (· ++ crlf ∈ helloLines c) c (helloBudget c) c.hello.1 := by
  unfold C.hello helloBudget
  by_cases hd : c.didHello = true
  · rw [if_pos hd, if_pos hd]; exact .nil c 0
  · rw [if_neg hd, if_neg hd]
    have h1 : Run Quiet (· ++ crlf ∈ helloLines c) c 0 c.greet.1 := greet_run c
    generalize c.greet = p at h1 ⊢
    obtain ⟨c1, e⟩ := p
    cases e with
    | some e => exact h1.le (Nat.zero_le _)
    | none =>
      dsimp only at h1 ⊢
      have h2 := (h1.quiet (c2 := { c1 with didHello := true }) {}).cmd 250
        (l := (if c1.lmtp then "LHLO ".b else "EHLO ".b) ++ c1.localName)
        (by rw [h1.fixed.lmtp, h1.fixed.localName]; exact List.mem_cons_self)
      generalize C.cmd _ 250 _ = q at h2 ⊢
      obtain ⟨c2, r⟩ := q
      simp only [] at h2
      cases r with
      | smtpErr e =>
        simp only []
        split
        · have h3 := (h2.quiet (c2 := { c2 with ext := [] }) {}).cmd 250 (l := "HELO ".b ++ c2.localName)
            (by rw [h2.fixed.localName]; exact List.mem_cons_of_mem _ List.mem_cons_self)
          generalize C.cmd _ 250 _ = q2 at h3 ⊢
          obtain ⟨c3, r3⟩ := q2
          exact h3.quiet {}
        · exact (h2.quiet {}).le (Nat.le_succ _)
      | _ => exact (h2.quiet {}).le (Nat.le_succ _)

/-- A `Client` method that sends one command (client.go: the rows of `Call.oneCmd`, and `initStartTLS`): `pre` the check before
    anything is written (`validateLine`, LMTP mode); `hello` whether `c.hello()` comes first, its error being the call's;
    `line` the command, from the state the hello left (`none`: a local error, nothing written); `code` what `c.cmd` expects;
    `upd` what the method does after the expected reply. -/
structure OneCmd where
  pre : C → Bool := fun _ => true
  hello : Bool := true
  line : C → Option Bytes
  code : Nat := 250
  upd : C → C := id

/-- Match by match as the branches of `C.call`, what the caller makes of state and error being a continuation applied at the
    leaves: unfolded, the two sides of `call_oneCmd` are the same term (identical matches share a matcher), so it is `rfl`. -/
def OneCmd.run {α} (p : OneCmd) (c : C) (fin : C → Option CErr → α) : α :=
  if !p.pre c then fin c (some .other) else
  match (bif p.hello then c.hello else (c, none)) with
  | (c, some e) => fin c (some e)
  | (c, none) =>
    match p.line c with
    | none => fin c (some .other)
    | some l =>
      match c.cmd p.code l with
      | (c, .ok _ _) => fin (p.upd c) none
      | (c, r) => fin c (rrErr r)

/-- A row per method of client.go.  `Rcpt`, `Data`, `LMTPData` send no implicit hello; `Mail` and `Rcpt` build their line from
    the extensions of the latest EHLO. -/
def Call.oneCmd : Call → Option OneCmd
  | .verify a => some { pre := fun _ => validLine a, line := fun _ => some ("VRFY ".b ++ a) }
  | .mail frm o => some { pre := fun _ => validLine frm, line := fun c => mailLine c.ext frm o, upd := fun c => { c with rcpts := [] } }
  | .rcpt to o => some { hello := false, line := fun c => rcptLine c.ext to o, code := 25, upd := fun c => { c with rcpts := c.rcpts ++ [to] } }
  | .reset => some { line := fun _ => some "RSET".b, upd := fun c => { c with didHello := false, helloErr := none, rcpts := [] } }
  | .noop => some { line := fun _ => some "NOOP".b }
  | .quit => some { line := fun _ => some "QUIT".b, code := 221, upd := fun c => { c with connClosed := true } }
  | .data => some { hello := false, line := fun _ => some "DATA".b, code := 354,
                    upd := fun c => { c with dws := c.dws ++ [{}], dot := some c.dws.length } }
  | .lmtpData => some { pre := fun c => c.lmtp, hello := false, line := fun _ => some "DATA".b, code := 354,
                        upd := fun c => { c with dws := c.dws ++ [{ cb := true }], dot := some c.dws.length } }
  | _ => none

/-- what `C.call` hands back for a method returning an `error`; `res` is the error as the harness prints it -/
def report (c : C) (e : Option CErr) : C × CallRes := (c, { written := c.out, res := showErr e })

theorem ok_or_not {α} (x : C × RR) (f : C → Option CErr → α) :
    (match x with | (c, .ok _ _) => f c none | (c, r) => f c (rrErr r)) = f x.1 (rrErr x.2) := by
  obtain ⟨c, r⟩ := x
  cases r <;> rfl

theorem call_oneCmd {k : Call} {p : OneCmd} (h : k.oneCmd = some p) (c0 : C) :
    c0.call k = p.run { c0 with out := c0.carry, carry := [] } report := by
  -- Verify and Noop do not look at the reply; every other row is `call`'s branch literally
  cases k <;> cases h
  case verify a | noop => dsimp only [C.call, OneCmd.run, cond_true, id]; simp only [ok_or_not]; rfl
  all_goals unfold C.call OneCmd.run; rfl

theorem OneCmd.run_spec {α} {L : Bytes → Prop} (p : OneCmd) (c : C) (fin : C → Option CErr → α)
    (hh : ∀ l, l ++ crlf ∈ helloLines c → L l) (hl : p.pre c = true → ∀ c1 l, p.line c1 = some l → L l) :
    ∃ c1, Run Quiet L c (helloBudget c + 1) c1 ∧ (p.run c fin = fin (p.upd c1) none ∨ ∃ e, p.run c fin = fin c1 (some e)) := by
  unfold OneCmd.run
  cases hp : p.pre c with
  | false => exact ⟨c, .nil c _, .inr ⟨_, rfl⟩⟩
  | true =>
    have h1 : Run Quiet L c (helloBudget c) (bif p.hello then c.hello else (c, none)).1 := by
      cases p.hello with
      | false => exact .nil c _
      | true => exact (hello_run c).mono (fun _ _ => id) hh
    generalize (bif p.hello then c.hello else (c, none)) = q at h1
    obtain ⟨c1, _ | e⟩ := q
    · rw [if_neg (by decide)]
      dsimp only
      cases hline : p.line c1 with
      | none => exact ⟨c1, h1.le (Nat.le_add_right _ _), .inr ⟨_, rfl⟩⟩
      | some l =>
        refine ⟨(c1.cmd p.code l).1, h1.cmd _ (hl hp c1 l hline), ?_⟩
        dsimp only
        generalize c1.cmd p.code l = q
        obtain ⟨c2, r⟩ := q
        cases r
        · exact .inl rfl
        all_goals exact .inr ⟨_, rfl⟩
    · exact ⟨c1, h1.le (Nat.le_add_right _ _), .inr ⟨_, rfl⟩⟩

/-- `initStartTLS` + `startTLS` (client.go): `STARTTLS` is a local error unless the EHLO reply offered it; after the 220 the
    handshake is pending, the buffered plaintext dropped, the capabilities forgotten and the hello to be done again. -/
def upgradeCmd : OneCmd where
  line c := if hasExt c.ext "STARTTLS" then some "STARTTLS".b else none
  code := 220
  upd c := { c with tlsPending := true, didHello := false, ext := [], peer := { c.peer with readable := [] } }

theorem initStartTLS_eq (c : C) : c.initStartTLS = upgradeCmd.run c Prod.mk := by
  unfold C.initStartTLS OneCmd.run
  dsimp only [upgradeCmd, cond_true]
  generalize c.hello = q
  obtain ⟨c1, _ | e⟩ := q
  · dsimp only
    cases hasExt c1.ext "STARTTLS" <;> rfl
  · rfl

end SmtpV.Client
