import SmtpV.Model.Client
import SmtpV.Proofs.TextFacts
/-!
No octet that the client's command-line builders produce is CR or LF (C15): every argument is checked by `validateLine`, comes
from a fixed keyword set, is a decimal number, or went through one of the encoders, whose output alphabet excludes CR and LF.
-/
namespace SmtpV.OneLine
open SmtpV SmtpV.Text SmtpV.Xtext SmtpV.Client

abbrev okB (b : Byte) : Prop := b ≠ 10 ∧ b ≠ 13

def NoNL (l : Bytes) : Prop := ∀ b ∈ l, okB b

/-- literals are checked by evaluation -/
instance (l : Bytes) : Decidable (NoNL l) := inferInstanceAs (Decidable (∀ b ∈ l, b ≠ 10 ∧ b ≠ 13))

theorem NoNL_nil : NoNL [] := List.forall_mem_nil _

theorem NoNL_append {a b : Bytes} : NoNL (a ++ b) ↔ NoNL a ∧ NoNL b := List.forall_mem_append

theorem NoNL_cons {a : Byte} {l : Bytes} : NoNL (a :: l) ↔ okB a ∧ NoNL l := List.forall_mem_cons

theorem NoNL_some {x p : Bytes} (hx : NoNL x) (h : some x = some p) : NoNL p := Option.some.inj h ▸ hx

theorem NoNL_flatMap {α} (l : List α) (f : α → Bytes) (h : ∀ x ∈ l, NoNL (f x)) : NoNL (l.flatMap f) :=
  List.forall_mem_flatMap.mpr h

theorem NoNL_of_all (l : Bytes) (p : Byte → Bool) (hp : ∀ b, p b = true → okB b) (h : l.all p = true) : NoNL l := by
  intro b hb
  exact hp b (List.all_eq_true.mp h b hb)

/-- every octet the encoders compute is above CR -/
theorem okB_ofNat (n : Nat) (lo : 14 ≤ n) (hi : n < 256) : okB (UInt8.ofNat n) := by
  have h := UInt8.toNat_ofNat_of_lt' hi
  constructor <;> intro e <;> rw [e] at h <;> subst h <;> exact absurd lo (by decide)

theorem validLine_NoNL (s : Bytes) (h : validLine s = true) : NoNL s := by
  intro b hb
  simp only [validLine, containsByte, Bool.not_eq_true', Bool.or_eq_false_iff, List.any_eq_false, beq_iff_eq] at h
  exact ⟨h.1 b hb, h.2 b hb⟩

theorem printable_NoNL (s : Bytes) (h : isPrintableASCII s = true) : NoNL s := by
  exact NoNL_of_all s _ (fun b hb => ⟨ne_of_class hb, ne_of_class hb⟩) h

theorem natToDec_NoNL (n : Nat) : NoNL (natToDec n) := fun b hb =>
  have h := List.all_eq_true.mp (natToDec_digits n) b hb
  ⟨ne_of_class h, ne_of_class h⟩

theorem intToDec_NoNL (i : Int) : NoNL (intToDec i) :=
  intToDec_mem (by decide) (fun _ h => ⟨ne_of_class h, ne_of_class h⟩) i

theorem hexU_mem {P : Byte → Prop} (hhex : ∀ n : Fin 16, P (hexDigitU n.val)) (fuel n : Nat) : ∀ b ∈ hexU fuel n, P b := by
  induction fuel generalizing n with
  | zero => exact List.forall_mem_nil _
  | succ f ih =>
    exact forall_mem_ite (fun h => List.forall_mem_singleton.mpr (hhex ⟨n, h⟩)) fun _ =>
      List.forall_mem_append.mpr ⟨ih _, List.forall_mem_singleton.mpr (hhex ⟨n % 16, Nat.mod_lt _ (by decide)⟩)⟩

theorem hex02_mem {P : Byte → Prop} (hhex : ∀ n : Fin 16, P (hexDigitU n.val)) (n : Nat) : ∀ b ∈ hex02 n, P b :=
  forall_mem_ite (fun h => List.forall_mem_cons.mpr ⟨hhex 0, List.forall_mem_singleton.mpr (hhex ⟨n, h⟩)⟩) fun _ =>
    hexU_mem hhex 8 n

/-- `P`: "neither CR nor LF" here, the alphabet of parameter values in Proofs/ParamTrip.lean -/
theorem encodeXtext_mem {P : Byte → Prop} (hhex : ∀ n : Fin 16, P (hexDigitU n.val)) (h43 : P 43)
    (hs : ∀ r, xtextSafe r = true → P (UInt8.ofNat r)) (s : Bytes) : ∀ b ∈ encodeXtext s, P b := by
  unfold encodeXtext
  refine List.forall_mem_flatMap.mpr ?_
  rintro ⟨r, w⟩ _
  exact forall_mem_ite (fun h => List.forall_mem_singleton.mpr (hs r h)) fun _ => List.forall_mem_cons.mpr ⟨h43, hex02_mem hhex r⟩

theorem hexDigitU_ok : ∀ n : Fin 16, okB (hexDigitU n.val) := by decide +kernel

theorem hex02_NoNL (n : Nat) : NoNL (hex02 n) := hex02_mem hexDigitU_ok n

theorem escapeRune_NoNL (r : Nat) : NoNL (escapeRune r) :=
  NoNL_append.mpr ⟨NoNL_append.mpr ⟨by decide, hex02_NoNL r⟩, by decide⟩

theorem safe_ok (r : Nat) (h : xtextSafe r = true) : okB (UInt8.ofNat r) := by
  simp only [xtextSafe, Bool.and_eq_true, decide_eq_true_eq, bne_iff_ne, ne_eq] at h
  exact okB_ofNat r (Nat.le_trans (by decide) h.1.1.1) (Nat.lt_of_le_of_lt h.1.1.2 (by decide))

theorem cont_ok (x : Nat) : okB (UInt8.ofNat (0x80 + x % 64)) :=
  okB_ofNat _ (Nat.le_add_right_of_le (by decide)) (Nat.lt_of_lt_of_le (Nat.add_lt_add_left (Nat.mod_lt x (by decide)) _) (by decide))

theorem lead_ok {a d q r : Nat} (ha : 14 ≤ a) (hq : a + q ≤ 256) (hr : r < d * q) : okB (UInt8.ofNat (a + r / d)) :=
  okB_ofNat _ (Nat.le_add_right_of_le ha) (Nat.lt_of_lt_of_le (Nat.add_lt_add_left (Nat.div_lt_of_lt_mul hr) a) hq)

/-- outside ASCII a rune is encoded as a lead octet from 0xC0 and continuation octets from 0x80 -/
theorem encodeRune_high_NoNL (r : Nat) (h : ¬ r ≤ 0x7F) : NoNL (encodeRune r) := by
  -- ASCII; two octets; a surrogate or out of range, written as U+FFFD; three octets; four
  fun_cases encodeRune r with
  | case1 h0 => exact absurd (Nat.le_of_lt_succ h0) h
  | case2 _ h1 => exact NoNL_cons.mpr ⟨lead_ok (q := 32) (by decide) (by decide) h1, NoNL_cons.mpr ⟨cont_ok r, NoNL_nil⟩⟩
  | case3 => decide
  | case4 _ _ _ h3 =>
    exact NoNL_cons.mpr ⟨lead_ok (q := 16) (by decide) (by decide) h3, NoNL_cons.mpr ⟨cont_ok _, NoNL_cons.mpr ⟨cont_ok r, NoNL_nil⟩⟩⟩
  | case5 _ _ h2 =>
    have h4 : r ≤ 0x10FFFF := Nat.not_lt.mp fun hgt => h2 (by rw [decide_eq_true hgt, Bool.or_true])
    exact NoNL_cons.mpr ⟨lead_ok (q := 16) (by decide) (by decide) (Nat.lt_of_le_of_lt h4 (by decide)),
      NoNL_cons.mpr ⟨cont_ok _, NoNL_cons.mpr ⟨cont_ok _, NoNL_cons.mpr ⟨cont_ok r, NoNL_nil⟩⟩⟩⟩

theorem encodeXtext_NoNL (s : Bytes) : NoNL (encodeXtext s) := encodeXtext_mem hexDigitU_ok (by decide) safe_ok s

theorem qsafe_ok (r : Nat) (h : qcharSafe r = true) : okB (UInt8.ofNat r) := by
  simp only [qcharSafe, Bool.and_eq_true] at h
  exact safe_ok r h.1

theorem encodeUTF8AddrXtext_NoNL (s : Bytes) : NoNL (encodeUTF8AddrXtext s) := by
  unfold encodeUTF8AddrXtext
  apply NoNL_flatMap
  rintro ⟨r, w⟩ _
  exact forall_mem_ite (fun h => NoNL_cons.mpr ⟨qsafe_ok r h, NoNL_nil⟩) fun _ => escapeRune_NoNL r

theorem encodeUTF8AddrUnitext_NoNL (s : Bytes) : NoNL (encodeUTF8AddrUnitext s) := by
  unfold encodeUTF8AddrUnitext
  apply NoNL_flatMap
  rintro ⟨r, w⟩ _
  exact forall_mem_ite (fun h => NoNL_cons.mpr ⟨qsafe_ok r h, NoNL_nil⟩) fun _ =>
    forall_mem_ite (fun _ => escapeRune_NoNL r) (encodeRune_high_NoNL r)

theorem b64Char_ok (n : Nat) : okB (Server.b64Char n) := by
  unfold Server.b64Char
  -- by hand: `split` on the nested ifs is slow
  by_cases h1 : n < 26
  · rw [if_pos h1]
    exact okB_ofNat _ (Nat.le_add_right_of_le (by decide)) (Nat.lt_of_lt_of_le (Nat.add_lt_add_left h1 65) (by decide))
  by_cases h2 : n < 52
  · rw [if_neg h1, if_pos h2]
    exact okB_ofNat _ (Nat.le_add_right_of_le (by decide)) (Nat.lt_of_lt_of_le (Nat.add_lt_add_left h2 71) (by decide))
  by_cases h3 : n < 62
  · rw [if_neg h1, if_neg h2, if_pos h3]
    exact okB_ofNat _ (Nat.le_sub_of_add_le (Nat.le_trans (by decide) (Nat.le_of_not_lt h2)))
      (Nat.lt_of_le_of_lt (Nat.sub_le n 4) (Nat.lt_trans h3 (by decide)))
  rw [if_neg h1, if_neg h2, if_neg h3]
  split <;> decide

theorem b64Encode_NoNL (r : Bytes) : NoNL (Server.b64Encode r) := by
  fun_induction Server.b64Encode r with
  | case1 => exact NoNL_nil
  | case2 => exact NoNL_cons.mpr ⟨b64Char_ok _, NoNL_cons.mpr ⟨b64Char_ok _, by decide⟩⟩
  | case3 => exact NoNL_cons.mpr ⟨b64Char_ok _, NoNL_cons.mpr ⟨b64Char_ok _, NoNL_cons.mpr ⟨b64Char_ok _, by decide⟩⟩⟩
  | case4 _ _ _ _ _ ih =>
    exact NoNL_cons.mpr ⟨b64Char_ok _, NoNL_cons.mpr ⟨b64Char_ok _, NoNL_cons.mpr ⟨b64Char_ok _, NoNL_cons.mpr ⟨b64Char_ok _, ih⟩⟩⟩⟩

theorem mem_trimLeft_go : ∀ (fuel : Nat) (s : Bytes) (b : Byte), b ∈ trimLeftSpace.go fuel s → b ∈ s := by
  intro fuel
  induction fuel with
  | zero => intro s b h; exact h
  | succ fuel ih =>
    intro s b h
    unfold trimLeftSpace.go at h
    split at h
    · split at h
      · exact List.mem_of_mem_drop (ih _ b h)
      · exact h
    · exact h

theorem mem_trimRight_go : ∀ (fuel : Nat) (s : Bytes) (b : Byte), b ∈ trimRightSpace.go fuel s → b ∈ s := by
  intro fuel
  induction fuel with
  | zero => intro s b h; exact h
  | succ fuel ih =>
    intro s b h
    unfold trimRightSpace.go at h
    dsimp only at h
    split at h
    · exact h
    · exact List.mem_of_mem_take (ih _ b h)

theorem NoNL_trimSpace (s : Bytes) (h : NoNL s) : NoNL (trimSpace s) := by
  intro b hb
  unfold trimSpace trimRightSpace trimLeftSpace at hb
  exact h b (mem_trimLeft_go _ _ b (mem_trimRight_go _ _ b hb))

end SmtpV.OneLine
