import SmtpV.Proofs.ClientRun
/-!
An idle client's runs write whole lines: what the call reports as written (`out`) and what reaches the raw socket (`plainLog`)
grow by each command's line `l ++ CRLF` or, the connection being gone or inside TLS, by nothing.
-/
namespace SmtpV.Client
open SmtpV

def Wrote (c c' : C) (ls : List Bytes) : Prop := Idle c' ∧ c'.plainLog = c.plainLog ++ ls.flatten

theorem Wrote.refl {c : C} (h : Idle c) : Wrote c c [] := ⟨h, by simp⟩

def Grew (L : Bytes → Prop) (n : Nat) (x y : Bytes) : Prop :=
  ∃ ws : List Bytes, y = x ++ ws.flatten ∧ ws.length ≤ n ∧ ∀ w ∈ ws, ∃ l, L l ∧ w = l ++ crlf

theorem Grew.nil {L n x} : Grew L n x x := ⟨[], (List.append_nil x).symm, Nat.zero_le n, nofun⟩

theorem Grew.step {L n x y z l} (h : Grew L n x y) (hl : L l) (hz : z = y ∨ z = y ++ (l ++ crlf)) : Grew L (n + 1) x z := by
  obtain ⟨ws, e, len, m⟩ := h
  rcases hz with rfl | rfl
  · exact ⟨ws, e, Nat.le_succ_of_le len, m⟩
  · refine ⟨ws ++ [l ++ crlf], by simp [e], by simp; omega, ?_⟩
    intro w hw
    rcases List.mem_append.1 hw with hw | hw
    · exact m w hw
    · exact ⟨l, hl, by simpa using hw⟩

theorem send_idle (c : C) (bs : Bytes) (h : Idle c) :
    Idle (c.send bs).1 ∧ ((c.send bs).1.out = c.out ∨ (c.send bs).1.out = c.out ++ bs) ∧
      ((c.send bs).1.plainLog = c.plainLog ∨ (c.send bs).1.plainLog = c.plainLog ++ bs) := by
  have hf : c.handshake.out = c.out ∧ c.handshake.dot = c.dot ∧ c.handshake.wbuf = c.wbuf ∧ c.handshake.plainLog = c.plainLog := by
    rcases handshake_cases c with ⟨_, e⟩ | ⟨_, e⟩ | e <;> rw [e] <;> exact ⟨rfl, rfl, rfl, rfl⟩
  generalize hs : c.handshake = c1 at hf
  obtain ⟨f1, f2, f3, f4⟩ := hf
  rcases send_cases hs bs with e | ⟨_, e⟩ <;> rw [e] <;> dsimp only
  · exact ⟨⟨f2.trans h.1, rfl⟩, Or.inl f1, Or.inl f4⟩
  · rw [f3, h.2, List.nil_append]
    refine ⟨⟨f2.trans h.1, rfl⟩, Or.inr (by rw [f1]), ?_⟩
    cases c1.tlsState == "ok"
    · exact Or.inr (congrArg (· ++ bs) f4)
    · exact Or.inl f4

theorem cmd_idle (c : C) (n : Nat) (l : Bytes) (h : Idle c) :
    Idle (c.cmd n l).1 ∧ ((c.cmd n l).1.out = c.out ∨ (c.cmd n l).1.out = c.out ++ (l ++ crlf)) ∧
      ((c.cmd n l).1.plainLog = c.plainLog ∨ (c.cmd n l).1.plainLog = c.plainLog ++ (l ++ crlf)) := by
  have h1 := send_idle c (l ++ crlf) h
  rcases cmd_cases (c1 := c) (pre := []) (by unfold C.closeDot; rw [h.1]) n l with e | e <;> rw [e, List.nil_append]
  · exact h1
  · have q := (read_quiet (c.send (l ++ crlf)).1 n).toCalm
    rw [Idle, q.dot, q.wbuf, q.out, q.plainLog]
    exact h1

structure Lines (L : Bytes → Prop) (n : Nat) (c c' : C) : Prop where
  idle : Idle c'
  out : Grew L n c.out c'.out
  plain : Grew L n c.plainLog c'.plainLog

theorem Run.lines {L} {c c' : C} {n : Nat} (h : Run Calm L c n c') (hi : Idle c) : Lines L n c c' := by
  induction h with
  | nil => exact ⟨hi, .nil, .nil⟩
  | quiet _ q ih => exact ⟨⟨q.dot.trans ih.idle.1, q.wbuf.trans ih.idle.2⟩, q.out ▸ ih.out, q.plainLog ▸ ih.plain⟩
  | cmd k _ hl ih =>
    obtain ⟨i, o, p⟩ := cmd_idle _ k _ ih.idle
    exact ⟨i, ih.out.step hl o, ih.plain.step hl p⟩

theorem initStartTLS_lines (c : C) (h : Idle c) :
    ∃ ls : List Bytes, (c.initStartTLS).1.plainLog = c.plainLog ++ ls.flatten ∧ ∀ l ∈ ls, l ∈ upgradeLines c := by
  obtain ⟨c1, hr, e⟩ := upgradeCmd.run_spec (L := (· ++ crlf ∈ upgradeLines c)) c Prod.mk
    (fun _ h => upgradeLines_eq c ▸ List.mem_append_left _ h) fun _ c1 l hl => by
    simp only [upgradeCmd] at hl
    split at hl
    · rw [← Option.some.inj hl]; exact List.mem_cons_of_mem _ (List.mem_cons_of_mem _ List.mem_cons_self)
    · cases hl
  obtain ⟨ls, e1, _, m⟩ := ((hr.calm fun _ => id).lines h).plain
  refine ⟨ls, ?_, fun l hl => by obtain ⟨x, hx, rfl⟩ := m l hl; exact hx⟩
  rw [initStartTLS_eq, ← e1]
  obtain e | ⟨_, e⟩ := e <;> rw [e] <;> rfl

end SmtpV.Client
