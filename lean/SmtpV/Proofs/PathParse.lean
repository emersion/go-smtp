import SmtpV.Model.Parse
import SmtpV.Proofs.TextFacts
/-!
The path parser of parse.go (`Parse.parsePath`, `parseMailbox`, `parseLocalPart`) step by step on the paths the C11 and C14
theorems are about: a dot-string or a quoted-string local part, `@`, a domain up to SP, HT or `>`.
-/
namespace SmtpV.Props.C11
open SmtpV SmtpV.Text SmtpV.Parse

/-- octets allowed in an unquoted local part here: anything but `@` and the specials the parser stops at -/
def lpOk (b : Byte) : Bool := !(b == 64) && !isDotStringStop b

/-- octets of a domain as the parser delimits it: anything but SP, HT and `>` -/
def domOk (b : Byte) : Bool := !(b == SP || b == HT || b == 62)

theorem parseDotString_run (a t acc : Bytes) (h : a.all lpOk = true) :
    parseDotString (a ++ t) acc = parseDotString t (a.reverse ++ acc) := by
  induction a generalizing acc with
  | nil => rfl
  | cons c a ih =>
    simp only [List.all_cons, Bool.and_eq_true] at h
    have hc := h.1
    simp only [lpOk, Bool.and_eq_true, Bool.not_eq_true'] at hc
    simp only [List.cons_append, parseDotString, hc.1, hc.2, Bool.false_eq_true, if_false]
    rw [ih _ h.2, List.reverse_cons, List.append_assoc, List.singleton_append]

theorem parseDotString_lp (lp t acc : Bytes) (h : lp.all lpOk = true) :
    parseDotString (lp ++ 64 :: t) acc = some (acc.reverse ++ lp, 64 :: t) := by
  rw [parseDotString_run lp _ acc h, parseDotString, if_pos (by decide), List.reverse_append, List.reverse_reverse]

theorem parseDotString_stop (a t acc : Bytes) (c : Byte) (ha : a.all lpOk = true) (hc : isDotStringStop c = true) :
    parseDotString (a ++ c :: t) acc = none := by
  rw [parseDotString_run a _ acc ha, parseDotString, if_neg (by simpa using ne_of_class (c := 64) hc), if_pos hc]

/-- the domain scan of `parseMailbox` -/
theorem domain_span (dom rest : Bytes) (h : dom.all domOk = true) (hr : ∀ c ∈ rest.head?, domOk c = false) :
    (dom ++ rest).takeWhile (fun ch => !(ch == SP || ch == HT || ch == 62)) = dom ∧
    (dom ++ rest).dropWhile (fun ch => !(ch == SP || ch == HT || ch == 62)) = rest :=
  span_first (List.all_eq_true.mp h) hr

theorem hasSuffix_at (x dom : Bytes) (hdom : dom ≠ []) (hlast : dom.getLast? ≠ some 64) : hasSuffix (x ++ dom) [64] = false := by
  rw [← List.dropLast_concat_getLast hdom, ← List.append_assoc]
  exact hasSuffix_last_ne (p := []) fun e => hlast (by rw [List.getLast?_eq_some_getLast hdom, e])

/-- `parseMailbox` behind a local part, however that was written -/
theorem parseMailbox_of_local (s lp dom rest : Bytes) (hl : parseLocalPart s = some (lp, 64 :: (dom ++ rest))) (hlp : lp ≠ [])
    (hdom : dom ≠ []) (hdomok : dom.all domOk = true) (hlast : dom.getLast? ≠ some 64)
    (hr : ∀ c ∈ rest.head?, domOk c = false) : parseMailbox s = some (lp ++ [64] ++ dom, rest) := by
  obtain ⟨t1, t2⟩ := domain_span dom rest hdomok hr
  simp only [parseMailbox, hl, List.isEmpty_eq_false_iff.mpr hlp, t1, t2, hasSuffix_at (lp ++ [64]) dom hdom hlast,
    Bool.false_eq_true, if_false]

theorem parseLocalPart_quoted (t : Bytes) : parseLocalPart (34 :: t) = parseQuoted t [] := rfl

theorem parseLocalPart_plain (s : Bytes) (h : ∀ t, s ≠ 34 :: t) : parseLocalPart s = parseDotString s [] := by
  unfold parseLocalPart
  split
  · rename_i t; exact absurd rfl (h t)
  · rfl

theorem parseLocalPart_dot (lp t : Bytes) (hlp : lp ≠ []) (hlpok : lp.all lpOk = true) :
    parseLocalPart (lp ++ 64 :: t) = some (lp, 64 :: t) := by
  obtain ⟨c, lp', rfl⟩ := List.exists_cons_of_ne_nil hlp
  rw [parseLocalPart_plain (c :: lp' ++ 64 :: t) fun r e => head_ne_of_class hlpok rfl (List.head_eq_of_cons_eq e),
    parseDotString_lp _ t [] hlpok]
  rfl

theorem route_none (s1 : Bytes) (h : ∀ t, s1 ≠ 64 :: t) : stripRoute s1 = some s1 := by
  unfold stripRoute
  split
  · rename_i t; exact absurd rfl (h t)
  · rfl

theorem parsePath_angle (s mb rest : Bytes) (h64 : ∀ t, s ≠ 64 :: t) (hm : parseMailbox s = some (mb, 62 :: rest)) :
    parsePath (60 :: s) = some (mb, rest) := by
  simp only [parsePath, route_none s h64, hm]
  rfl

/-- the quoted-string body that stands for the octets `s`: backslash and double quote escaped by a backslash
    (any octet may be written as a quoted-pair; this is the minimal form) -/
def quote (s : Bytes) : Bytes := s.flatMap (fun b => if b == 92 || b == 34 then [92, b] else [b])

theorem quote_cons_esc (b : Byte) (s : Bytes) (h : b = 92 ∨ b = 34) : quote (b :: s) = 92 :: b :: quote s := by
  rcases h with rfl | rfl <;> rfl

theorem quote_cons_plain (b : Byte) (s : Bytes) (h1 : b ≠ 92) (h2 : b ≠ 34) : quote (b :: s) = b :: quote s := by
  have : (b == 92 || b == 34) = false := Bool.or_eq_false_iff.mpr ⟨decide_eq_false h1, decide_eq_false h2⟩
  simp only [quote, List.flatMap_cons, this, Bool.false_eq_true, if_false, List.singleton_append]

theorem parseQuoted_quote (s rest acc : Bytes) :
    parseQuoted (quote s ++ 34 :: rest) acc = some (acc.reverse ++ s, rest) := by
  induction s generalizing acc with
  | nil =>
    show parseQuoted (34 :: rest) acc = _
    rw [parseQuoted.eq_def]
    dsimp only
    rw [if_neg (by decide), if_pos (by decide), List.append_nil]
  | cons b s ih =>
    by_cases he : b = 92 ∨ b = 34
    · rw [quote_cons_esc _ _ he]
      show parseQuoted (92 :: b :: (quote s ++ 34 :: rest)) acc = _
      rw [parseQuoted, if_pos (by decide), ih, List.reverse_cons, List.append_assoc, List.singleton_append]
    · rw [quote_cons_plain b s (he ∘ .inl) (he ∘ .inr)]
      show parseQuoted (b :: (quote s ++ 34 :: rest)) acc = _
      have e1 : (b == 92) = false := decide_eq_false (he ∘ .inl)
      have e2 : (b == 34) = false := decide_eq_false (he ∘ .inr)
      rw [parseQuoted.eq_def]
      simp only [e1, e2, Bool.false_eq_true, if_false]
      rw [ih, List.reverse_cons, List.append_assoc, List.singleton_append]

end SmtpV.Props.C11
