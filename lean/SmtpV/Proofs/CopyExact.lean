import SmtpV.Proofs.Framing
/-!
C05, copying a chunk into the delivery.  Whatever the source and the delivery do, what is taken off the stream is its head; from
a live source that holds the chunk, a running delivery that takes whatever comes is handed exactly the first `n` octets,
whatever the segmentation and the copy buffer size.
-/
namespace SmtpV.Server
open SmtpV SmtpV.Wire SmtpV.Spec

/-- the octets delivery `k` has been handed -/
def octs (s : S) (k : Nat) : Bytes := ((s.drecs[k]?).map (fun d => d.octets)).getD []

/-- the delivery is running and reads to the end -/
def Hungry (s : S) (k : Nat) : Prop := delivRunning s k = true ∧ (delivDec s k).want = none

theorem delivWrite_hungry (s : S) (k : Nat) (bs : Bytes) (h : Hungry s k) :
    (delivWrite s k bs).2 = true ∧ octs (delivWrite s k bs).1 k = octs s k ++ bs ∧ Hungry (delivWrite s k bs).1 k := by
  obtain ⟨hr, hw⟩ := h
  obtain ⟨d, hd, hfin⟩ := delivRunning_rec hr
  have htake : delivTake s k bs = bs.length := by unfold delivTake; simp [hw]
  have hreach : delivReached s k bs.length = false := by unfold delivReached; simp [hw]
  unfold delivWrite
  simp only [hr, Bool.not_true, Bool.false_eq_true, if_false, htake, hreach, List.take_length, Nat.beq_eq_true_eq]
  have hget := setDrec_get_self hd
  refine ⟨trivial, ?_, ?_, hw⟩
  · simp only [octs, hget, hd, Option.map_some, Option.getD_some]
  · unfold delivRunning; rw [hget]; simp [hfin]

/-- `x` is the result of `copyChunk`: the state, the octets of the chunk still unread, how it ended -/
structure Copied (s : S) (k n cap fuel : Nat) (x : S × Nat × CopyEnd) : Prop where
  le : x.2.1 ≤ n
  took : pending x.1.w = (pending s.w).drop (n - x.2.1)
  limit : x.1.w.limit = 0
  live : Live s.w → Live x.1.w
  exact : Live s.w → 0 < cap → n ≤ (pending s.w).length → n ≤ fuel → Hungry s k →
    x.2.1 = 0 ∧ octs x.1 k = octs s k ++ (pending s.w).take n ∧ Hungry x.1 k

theorem copyChunk_copied (fuel : Nat) : ∀ (s : S) (k n cap : Nat), s.w.limit = 0 →
    Copied s k n cap fuel (copyChunk fuel s k n cap) := by
  have stop : ∀ (s : S) (k n cap fuel : Nat) ce, s.w.limit = 0 → (n = 0 ∨ fuel = 0) → Copied s k n cap fuel (s, n, ce) := by
    intro s k n cap fuel ce hl h0
    refine ⟨Nat.le_refl _, by rw [Nat.sub_self]; rfl, hl, id, fun _ _ _ hf hh => ?_⟩
    have : n = 0 := h0.elim id fun h => Nat.le_zero.mp (h ▸ hf)
    subst this
    exact ⟨rfl, (List.append_nil _).symm, hh⟩
  induction fuel with
  | zero => intro s k n cap hl; exact stop s k n cap 0 _ hl (.inr rfl)
  | succ fuel ih =>
    intro s k n cap hl
    unfold copyChunk
    by_cases hn : (n == 0) = true
    · rw [if_pos hn, beq_iff_eq.mp hn]; exact stop s k 0 cap _ _ hl (.inl rfl)
    · rw [if_neg hn]
      have hf := bufRead_frame s.w (min cap n) hl
      rcases hbr : bufRead s.w (min cap n) with ⟨w1, r⟩
      rw [hbr] at hf
      dsimp only at hf
      cases r with
      | error e =>
        obtain ⟨hp, hdry⟩ := hf.error e rfl
        have : ∀ ce, Copied s k n cap (fuel + 1) ({ s with w := w1 }, n, ce) := fun ce =>
          ⟨Nat.le_refl _, by rw [Nat.sub_self]; exact hp, hf.limit, hf.live, fun hw _ hlen _ _ => by
            rw [hdry hw] at hlen; exact absurd (beq_iff_eq.mpr (Nat.le_zero.mp hlen)) hn⟩
        cases e <;> exact this _
      | ok bs =>
        -- the read took `bs` off the head of the stream (`hp`) and the pipe leaves the wire alone (`hw1`): what is left of the
        -- copy is the copy of `n - bs.length` octets from there; a hungry delivery takes all of `bs` and stays hungry (`hh1`)
        obtain ⟨hp, hlen, hne⟩ := hf.ok bs rfl
        have hbn : bs.length ≤ n := Nat.le_trans hlen (Nat.min_le_right _ _)
        have hw1 : (delivWrite { s with w := w1 } k bs).1.w = w1 := (delivWrite_fields _ _ _).2.2.1
        have hh1 := delivWrite_hungry { s with w := w1 } k bs
        dsimp only
        by_cases hok : (delivWrite { s with w := w1 } k bs).2 = true
        · rw [if_pos hok]
          have i := ih (delivWrite { s with w := w1 } k bs).1 k (n - bs.length) cap (by rw [hw1]; exact hf.limit)
          generalize copyChunk fuel (delivWrite { s with w := w1 } k bs).1 k (n - bs.length) cap = x at i ⊢
          obtain ⟨i1, i2, i3, i4, i5⟩ := i
          rw [hw1] at i2 i4 i5
          refine ⟨Nat.le_trans i1 (Nat.sub_le _ _), ?_, i3, fun h => i4 (hf.live h), fun hw hcap hl1 hfu hh => ?_⟩
          · rw [i2, ← hp, Nat.sub_right_comm, List.drop_append,
              List.drop_eq_nil_of_le (Nat.le_sub_of_add_le' (Nat.add_le_of_le_sub hbn i1)), List.nil_append]
          · obtain ⟨a, b⟩ := rest_fits (List.length_pos_iff.mpr (hne hw (Nat.lt_min.mpr ⟨hcap, Nat.pos_of_ne_zero fun h =>
              hn (beq_iff_eq.mpr h)⟩))) (by rw [← List.length_append, hp]) hl1 hfu
            obtain ⟨j1, j2, j3⟩ := i5 (hf.live hw) hcap a b (hh1 hh).2.2
            refine ⟨j1, ?_, j3⟩
            rw [j2, (hh1 hh).2.1, ← hp, List.append_assoc, ← List.take_length_add_append, Nat.add_sub_cancel' hbn]
            rfl
        · rw [if_neg hok]
          refine ⟨Nat.sub_le _ _, ?_, by rw [hw1]; exact hf.limit, fun h => by rw [hw1]; exact hf.live h, fun _ _ _ _ hh => ?_⟩
          · show pending (delivWrite { s with w := w1 } k bs).1.w = _
            rw [hw1, Nat.sub_sub_self hbn, ← hp, ← Nat.add_zero bs.length, List.drop_length_add_append]; rfl
          · exact absurd (hh1 hh).1 hok

/-- copy as far as the delivery takes it, then discard the rest (`bdatFail`) -/
theorem copy_then_discard_exact (s : S) (k n cap : Nat) (hl : s.w.limit = 0) (hw : Live s.w)
    (hn : n ≤ (pending s.w).length) (f1 f2 : Nat) (hf2 : (pending (copyChunk f1 s k n cap).1.w).length ≤ f2) :
    pending (discardN f2 (copyChunk f1 s k n cap).1.w (copyChunk f1 s k n cap).2.1) = (pending s.w).drop n := by
  have c := copyChunk_copied f1 s k n cap hl
  generalize copyChunk f1 s k n cap = x at c hf2 ⊢
  have hlen : x.2.1 ≤ (pending x.1.w).length := by
    rw [c.took, List.length_drop]; exact Nat.le_sub_of_add_le (Nat.le_trans (Nat.le_of_eq (Nat.add_sub_cancel' c.le)) hn)
  rw [(discardN_exact f2 _ _ c.limit (c.live hw) hlen (Nat.le_trans hlen hf2)).1, c.took, List.drop_drop,
    Nat.sub_add_cancel c.le]

end SmtpV.Server
