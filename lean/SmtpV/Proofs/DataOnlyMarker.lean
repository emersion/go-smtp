import SmtpV.Proofs.DataReader
import SmtpV.Proofs.Scan
/-!
The machine reaches its EOF state only on a terminated stream: nothing but `CRLF.CRLF` (or a leading `.CRLF`) ends DATA.
`Spec.Terminated`, the greedy run reaching EOF and the recogniser `Spec.scan` imply each other in a circle: `run_terminated`,
`run_scan`, `scan_sound`.
-/
namespace SmtpV.DataReader
open SmtpV SmtpV.Spec SmtpV.Server

theorem lt_of_pos_add {a b c m : Nat} (ha : 0 < a) (h : a + b = c) (hlt : c < m + 1) : b < m := by omega

/-- both walk the stream line by line -/
theorem run_scan (fuel : Nat) (s o r : Bytes) (hf : s.length < fuel) (h : run .bol s = (.eof, o, r)) :
    scan fuel s = some (o, r) := by
  induction fuel generalizing s o with
  | zero => exact absurd hf (Nat.not_lt_zero _)
  | succ fuel ih =>
    simp only [scan]
    cases ht : takeLine s with
    | none =>
      -- no CRLF, no end of data
      have hne := feed_bol_noCRLF s (takeLine_none s ht)
      have := run_of_feed .bol s [] hne
      rw [List.append_nil, h] at this
      exact absurd (congrArg Prod.fst this).symm (by simpa using hne)
    | some p =>
      obtain ⟨l, x⟩ := p
      obtain ⟨rfl, hl⟩ := takeLine_spec s l x ht
      by_cases hm : l = Spec.marker
      · subst hm
        rw [run_marker] at h
        cases h
        exact if_pos rfl
      · have hf' := feed_line l hl hm
        obtain ⟨o', rfl, h'⟩ := RunD.of_eof (run_of_feed .bol l x (by simp [hf'])) h
        rw [hf'] at h'
        have hpos : 0 < l.length := by obtain ⟨t, rfl, _⟩ := hl; simp
        simp only [hm, hf', if_false, ih x o' (lt_of_pos_add hpos List.length_append.symm hf) h']

theorem run_eof_terminated (s o r : Bytes) (h : run .bol s = (.eof, o, r)) : Terminated s o r :=
  scan_sound _ s o r (run_scan (s.length + 1) s o r (Nat.lt_succ_self _) h)

end SmtpV.DataReader

namespace SmtpV.Spec
open SmtpV.DataReader

theorem terminated?_iff (s body rest : Bytes) :
    terminated? s = some (body, rest) ↔ Terminated s body rest :=
  ⟨scan_sound _ s body rest, fun h => run_scan _ s body rest (Nat.lt_succ_self _) (run_terminated s body rest h)⟩

theorem terminated?_none (s : Bytes) : terminated? s = none ↔ ¬ ∃ body rest, Terminated s body rest := by
  constructor
  · rintro h ⟨body, rest, ht⟩
    rw [(terminated?_iff s body rest).mpr ht] at h; simp at h
  · intro h
    cases hq : terminated? s with
    | none => rfl
    | some p => exact absurd ⟨p.1, p.2, (terminated?_iff s p.1 p.2).mp hq⟩ h

end SmtpV.Spec
