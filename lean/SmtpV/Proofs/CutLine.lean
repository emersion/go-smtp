import SmtpV.Proofs.WireFacts
import SmtpV.Proofs.HandlerCases
/-!
The command loop on a stream that was cut short: `readLine` hands out no line when no LF is pending (`readLine_cut`,
Proofs/WireFacts.lean), so the loop is over after at most one closing notice (500 for an over-long line, 421 for the idle timeout).
-/
namespace SmtpV.Server
open SmtpV SmtpV.Wire

theorem loop_cut (fuel : Nat) (s : S) (h : NoLF (pending s.w)) : ∃ w1 n, n ≤ 1 ∧ Wrote n (setW s w1) (loop fuel s) := by
  cases fuel with
  | zero => exact ⟨s.w, 0, Nat.zero_le _, .nil s⟩
  | succ fuel =>
    unfold loop
    by_cases hc : s.c.closed = true
    · rw [if_pos hc]; exact ⟨s.w, 0, Nat.zero_le _, .nil s⟩
    · rw [if_neg hc]
      obtain ⟨e, he⟩ := readLine_cut s.w h
      unfold connReadLine
      generalize readLine s.w = x at he ⊢
      obtain ⟨w1, r⟩ := x
      cases he
      cases e with
      | eof | closed => exact ⟨w1, 0, Nat.zero_le _, .nil _⟩
      | tooLong | timeout => exact ⟨w1, 1, Nat.le_refl _, .one _ _⟩

end SmtpV.Server
