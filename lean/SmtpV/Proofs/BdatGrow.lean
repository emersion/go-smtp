import SmtpV.Proofs.Framing
/-!
C06 for chunks: what `handleBdat` does with a `BDAT size` that would take the message over the limit (`C06_chunk_over_limit`
reads off it that nothing is handed to anybody); executing an accepted one hands the backend at most `size` further octets,
however the chunk arrives or fails to arrive, and nothing else to any delivery.
-/
namespace SmtpV.Server
open SmtpV SmtpV.Wire SmtpV.Spec SmtpV.Text

theorem handleBdat_over_limit (s : S) (arg a0 : Bytes) (more : List Bytes) (size : Nat)
    (hf : fields arg = a0 :: more) (hsz : parseUintDec a0 32 = some size) (hm : more.length ≤ 1)
    (henv : s.c.fromReceived = true ∧ s.c.recipients.isEmpty = false) (hlast : bdatLastBad more = false)
    (hover : s.cfg.maxMsg ≠ 0 ∧ s.c.bytesReceived + size > s.cfg.maxMsg) :
    handleBdat s arg = (resetConn (discardChunkN (reply s 552 ⟨5, 3, 4⟩ "Max message size exceeded") (some size)), false) := by
  unfold handleBdat
  simp only [hf, hsz]
  have h1 : ¬ more.length > 1 := Nat.not_lt.mpr hm
  have h3 : (s.cfg.maxMsg != 0 && decide (s.c.bytesReceived + size > s.cfg.maxMsg)) = true := by
    simp [hover.1, hover.2]
  simp only [h1, if_false, henv.1, henv.2, Bool.not_true, Bool.or_self, Bool.false_eq_true, hlast, h3, if_true]

theorem bufRead_len (w : W) (m : Nat) (hl : w.limit = 0) (bs : Bytes) (w1 : W) (h : bufRead w m = (w1, .ok bs)) :
    bs.length ≤ m ∧ w1.limit = 0 := by
  have := bufRead_frame w m hl
  rw [h] at this
  exact ⟨(this.ok bs rfl).2.1, this.limit⟩

theorem bufRead_limit (w : W) (m : Nat) (hl : w.limit = 0) : (bufRead w m).1.limit = 0 := (bufRead_frame w m hl).limit

theorem grow_copyChunk (fuel : Nat) (s : S) (k n cap : Nat) (hl : s.w.limit = 0) : GrowBy s (copyChunk fuel s k n cap).1 n :=
  copyChunk_rel (R := fun m s s' => GrowBy s s' m) .rfl' .trans (fun h g => g.mono h) (fun _ _ => .of_drecs rfl)
    k (fun s bs => (delivWrite_recs s k bs).1) fuel s n cap hl

theorem grow0_bdatAfterCopy (s : S) (k size left : Nat) (last : Bool) (ce : CopyEnd) :
    GrowBy s (bdatAfterCopy s k size left last ce).1 0 := by
  rcases bdatAfterCopy_cases s k size left last ce with ⟨err, he⟩ | ⟨_, _, he⟩ | ⟨_, _, he⟩ <;> rw [he]
  · obtain ⟨s', he, hq, _⟩ := bdatFail_shape s k left last err
    rw [he]
    exact .of_same ((SameOctets.of_drecs (s' := setW s _) rfl).trans (hq.oct.trans (.of_drecs rfl)))
  · exact (quiet_write (armLimit (addBytesReceived s size)) _).grow
  · exact (calm_bdatFinal (armLimit (addBytesReceived s size)) k).grow

theorem grow_bdatChunk (s : S) (size : Nat) (last : Bool) : GrowBy s (bdatChunk s size last).1 size := by
  unfold bdatChunk
  dsimp only
  have b := (quiet_setBdatStatus s).grow.trans (bdatBegin_frame _).grow
  generalize bdatBegin (setBdatStatus s) = p at b ⊢
  exact ((b.trans (grow_copyChunk _ (setLimit p.1 0) _ size _ rfl)).trans (grow0_bdatAfterCopy _ _ size _ last _)).mono (by omega)

end SmtpV.Server
