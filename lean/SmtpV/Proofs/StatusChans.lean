import SmtpV.Proofs.ByteEq
import SmtpV.Model.StatusChans
/-!
The channel mechanism of `statusCollector` seen through `chanOf`, the channel an address is mapped to: `SetStatus` and the
receive exchange that one channel for an updated one (`put`) and leave the others alone.  Receiving in RCPT order from
channels that hold, for each address, the statuses set for it followed by the return value yields the attribution
specification (`Spec.Mon.expectedStatuses`).
-/
namespace SmtpV.StatusChans
open SmtpV SmtpV.Spec SmtpV.Spec.Mon

/-- the channel of an address: the first one that carries it -/
def chanOf (cs : Chans) (a : Bytes) : Option Chan := cs.find? (·.addr == a)

theorem chanOf_cons (c : Chan) (cs : Chans) (a : Bytes) :
    chanOf (c :: cs) a = if c.addr == a then some c else chanOf cs a := by
  unfold chanOf
  rw [List.find?_cons]
  cases c.addr == a <;> rfl

/-- the statuses the backend set for `a`, in the order of the calls -/
def mine (calls : List (Bytes × BRes)) (a : Bytes) : List BRes := (calls.filter (·.1 == a)).map (·.2)

theorem mine_concat (q : List (Bytes × BRes)) (a b : Bytes) (r : BRes) :
    mine (q ++ [(a, r)]) b = if a = b then mine q b ++ [r] else mine q b := by
  by_cases h : a = b <;> simp [mine, List.filter_append, h]

def put : Chans → Bytes → Chan → Chans
  | [], _, _ => []
  | c :: cs, a, c' => if c.addr == a then c' :: cs else c :: put cs a c'

theorem chanOf_put {cs : Chans} {a : Bytes} {c : Chan} (hc : chanOf cs a = some c) (q : List BRes) (b : Bytes) :
    chanOf (put cs a { c with q := q }) b = if b = a then some { c with q := q } else chanOf cs b := by
  induction cs with
  | nil => cases hc
  | cons d cs ih =>
    -- `put` and the lookup of `a` stop at the same channel; the new one carries `a` again, so the lookup of another address
    -- passes it as it passed the old one
    rw [chanOf_cons] at hc
    simp only [put, chanOf_cons]
    cases hd : d.addr == a
    · rw [hd] at hc
      simp only [Bool.false_eq_true, if_false, chanOf_cons, ih hc]
      by_cases hb : b = a
      · simp [hb, hd]
      · simp [hb]
    · rw [hd, if_pos rfl] at hc
      cases hc
      simp only [if_true, chanOf_cons]
      by_cases hb : b = a
      · simp [hb, eq_of_beq hd]
      · simp [hb, eq_of_beq hd, Ne.symm hb]

theorem setStatus_eq (cs : Chans) (a : Bytes) (r : BRes) :
    setStatus cs a r = (chanOf cs a).bind fun c =>
      if c.q.length < c.cap then some (put cs a { c with q := c.q ++ [r] }) else none := by
  induction cs with
  | nil => rfl
  | cons c cs ih =>
    simp only [setStatus, chanOf_cons, put, ih]
    cases c.addr == a
    · cases chanOf cs a
      · rfl
      · exact apply_ite (Option.map (c :: ·)) ..
    · rfl

theorem recv_eq (cs : Chans) (a : Bytes) :
    recv cs a = (chanOf cs a).bind fun c =>
      match c.q with
      | r :: q' => some (r, put cs a { c with q := q' })
      | [] => none := by
  induction cs with
  | nil => rfl
  | cons c cs ih =>
    simp only [recv, chanOf_cons, put, ih]
    cases c.addr == a
    · rcases chanOf cs a with _ | ⟨_, _, _ | _⟩ <;> rfl
    · rfl

theorem chanOf_fill (cs : Chans) (r : BRes) (b : Bytes) :
    chanOf (fill cs r) b = (chanOf cs b).map fun c => { c with q := c.q ++ List.replicate (c.cap - c.q.length) r } := by
  induction cs with
  | nil => rfl
  | cons c cs ih =>
    simp only [fill, List.map_cons, chanOf_cons] at ih ⊢
    cases c.addr == b
    · exact ih
    · rfl

theorem chanOf_create (rcpts : List Bytes) (a : Bytes) :
    chanOf (create rcpts) a = if a ∈ rcpts then some { addr := a, cap := countOf a rcpts } else none := by
  have key : ∀ ds : List Bytes, chanOf (ds.map fun a => ({ addr := a, cap := countOf a rcpts } : Chan)) a =
      if a ∈ ds then some { addr := a, cap := countOf a rcpts } else none := by
    intro ds
    induction ds with
    | nil => rfl
    | cons d ds ih =>
      rw [List.map_cons, chanOf_cons, ih]
      by_cases hd : d = a
      · simp [hd]
      · simp [hd, Ne.symm hd]
  simp only [create, key, List.mem_eraseDups]

theorem countOf_append (a : Bytes) (l m : List Bytes) : countOf a (l ++ m) = countOf a l + countOf a m := by
  simp [countOf, List.filter_append]

theorem countOf_cons (a b : Bytes) (l : List Bytes) : countOf a (b :: l) = countOf a l + if b = a then 1 else 0 := by
  by_cases h : b = a <;> simp [countOf, h]

/-- the full content of a filled channel -/
def full (calls : List (Bytes × BRes)) (ret : BRes) (n : Nat) (a : Bytes) : List BRes :=
  mine calls a ++ List.replicate (n - (mine calls a).length) ret

theorem full_get (calls : List (Bytes × BRes)) (ret : BRes) (n : Nat) (a : Bytes) (j : Nat) (hj : j < n) :
    (full calls ret n a).drop j = ((mine calls a)[j]?).getD ret :: (full calls ret n a).drop (j + 1) := by
  have hx : (full calls ret n a)[j]? = some (((mine calls a)[j]?).getD ret) := by
    unfold full
    rw [List.getElem?_append]
    by_cases h : j < (mine calls a).length
    · rw [if_pos h, List.getElem?_eq_getElem h]
      rfl
    · have hle := Nat.le_of_not_lt h
      rw [if_neg h, List.getElem?_replicate, if_pos (Nat.sub_lt_sub_right hle hj), List.getElem?_eq_none hle]
      rfl
  obtain ⟨hjl, hx⟩ := List.getElem?_eq_some_iff.mp hx
  rw [List.drop_eq_getElem_cons hjl, hx]

/-- the receive loop with `seen` done and `rest` to come: the channel of each `b` to come holds its full content less the
    `countOf b seen` statuses already received -/
theorem recvAll_spec (calls : List (Bytes × BRes)) (ret : BRes) (rcpts : List Bytes) :
    ∀ (rest seen : List Bytes) (cs : Chans), seen ++ rest = rcpts →
      (∀ b, b ∈ rest → ∃ c, chanOf cs b = some c ∧ c.q = (full calls ret (countOf b rcpts) b).drop (countOf b seen)) →
      recvAll cs rest = some (expectedStatuses.go calls ret rest seen) := by
  intro rest
  induction rest with
  | nil => intro seen cs _ _; rfl
  | cons a rest ih =>
    intro seen cs hsplit hch
    obtain ⟨c, hc, hq⟩ := hch a List.mem_cons_self
    have hj : countOf a seen < countOf a rcpts := by
      rw [← hsplit, countOf_append, countOf_cons, if_pos rfl]; omega
    rw [full_get calls ret _ a _ hj] at hq
    simp only [recvAll, recv_eq, hc, Option.bind_some, hq, expectedStatuses.go]
    rw [ih (seen ++ [a]) _ (by simp [← hsplit])]
    · rfl
    · intro b hb
      obtain ⟨c', hc', hq'⟩ := hch b (List.mem_cons_of_mem _ hb)
      rw [chanOf_put hc, countOf_append, countOf_cons]
      by_cases hba : b = a
      · subst hba
        rw [if_pos rfl, if_pos rfl]
        exact ⟨_, rfl, rfl⟩
      · rw [if_neg hba, if_neg (Ne.symm hba)]
        exact ⟨c', hc', hq'⟩

end SmtpV.StatusChans
