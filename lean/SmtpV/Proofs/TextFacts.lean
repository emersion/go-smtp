import SmtpV.Proofs.ByteEq
import SmtpV.Model.Text
/-!
What the Go string functions of Model/Text.lean do: `strings.Split`/`Cut` (`splitByte` and joining with the separator are
inverse to each other), `%d` and its readers, and — on 7-bit text, where Go's UTF-8 decoding is the identity — `ToUpper`,
`TrimSpace`, `TrimRight`.
-/
namespace SmtpV.Text
open SmtpV

theorem intercalate_cons (sep : Byte) (first : Bytes) (tl : List Bytes) :
    List.intercalate [sep] (first :: tl) = first ++ tl.flatMap fun l => sep :: l := by
  induction tl generalizing first with
  | nil => simp [List.intercalate, List.intersperse]
  | cons a tl ih => rw [List.intercalate_cons_cons, ih a]; simp

theorem forall_mem_intercalate {P : Byte → Prop} {sep : Byte} {vals : List Bytes} (hs : P sep) (h : ∀ v ∈ vals, ∀ b ∈ v, P b) :
    ∀ b ∈ List.intercalate [sep] vals, P b := by
  cases vals with
  | nil => exact List.forall_mem_nil _
  | cons first tl =>
    rw [intercalate_cons]
    exact List.forall_mem_append.mpr ⟨h first List.mem_cons_self, List.forall_mem_flatMap.mpr fun v hv =>
      List.forall_mem_cons.mpr ⟨hs, h v (List.mem_cons_of_mem _ hv)⟩⟩

theorem forall_mem_ite {α} {P : α → Prop} {c : Prop} [Decidable c] {a b : List α} (ha : c → ∀ x ∈ a, P x)
    (hb : ¬c → ∀ x ∈ b, P x) : ∀ x ∈ (if c then a else b), P x :=
  if h : c then if_pos h ▸ ha h else if_neg h ▸ hb h

theorem splitByte_go_noSep (s cur : Bytes) (acc : List Bytes) (sep : Byte) (h : ∀ b ∈ s, b ≠ sep) :
    splitByte.go sep s cur acc = ((cur.reverse ++ s) :: acc).reverse := by
  induction s generalizing cur with
  | nil => simp [splitByte.go]
  | cons c t ih =>
    have hc : (c == sep) = false := beq_false_of_ne (h c List.mem_cons_self)
    simp only [splitByte.go, hc, Bool.false_eq_true, if_false]
    rw [ih _ (fun b hb => h b (List.mem_cons_of_mem _ hb))]
    simp

theorem splitByte_go_append (a t cur : Bytes) (acc : List Bytes) (sep : Byte) (h : ∀ b ∈ a, b ≠ sep) :
    splitByte.go sep (a ++ sep :: t) cur acc = splitByte.go sep t [] ((cur.reverse ++ a) :: acc) := by
  induction a generalizing cur with
  | nil => simp [splitByte.go]
  | cons c a ih =>
    have hc : (c == sep) = false := beq_false_of_ne (h c List.mem_cons_self)
    simp only [List.cons_append, splitByte.go, hc, Bool.false_eq_true, if_false]
    rw [ih _ (fun b hb => h b (List.mem_cons_of_mem _ hb))]
    simp

theorem splitByte_go_flat (sep : Byte) (tl : List Bytes) (hs : ∀ v ∈ tl, ∀ b ∈ v, b ≠ sep) :
    ∀ (first cur : Bytes) (acc : List Bytes), (∀ b ∈ first, b ≠ sep) →
      splitByte.go sep (first ++ tl.flatMap fun l => sep :: l) cur acc = (acc.reverse ++ (cur.reverse ++ first) :: tl) := by
  induction tl with
  | nil =>
    intro first cur acc hf
    simp only [List.flatMap_nil, List.append_nil, splitByte_go_noSep first cur acc sep hf]
    simp
  | cons a tl ih =>
    intro first cur acc hf
    rw [List.flatMap_cons, List.cons_append, splitByte_go_append first _ cur acc sep hf,
      ih (fun v hv => hs v (List.mem_cons_of_mem _ hv)) a [] _ (hs a List.mem_cons_self)]
    simp

theorem splitByte_intercalate (sep : Byte) (vals : List Bytes) (hne : vals ≠ []) (hs : ∀ v ∈ vals, ∀ b ∈ v, b ≠ sep) :
    splitByte (List.intercalate [sep] vals) sep = vals := by
  cases vals with
  | nil => exact absurd rfl hne
  | cons first tl =>
    rw [intercalate_cons, splitByte,
      splitByte_go_flat sep tl (fun v hv => hs v (List.mem_cons_of_mem _ hv)) first [] [] (hs first List.mem_cons_self)]
    simp

theorem exists_pieces (s : Bytes) (sep : Byte) :
    ∃ ls : List Bytes, ls ≠ [] ∧ (∀ l ∈ ls, ∀ b ∈ l, b ≠ sep) ∧ List.intercalate [sep] ls = s := by
  induction s with
  | nil => exact ⟨[[]], List.cons_ne_nil _ _, List.forall_mem_singleton.mpr (List.forall_mem_nil _), rfl⟩
  | cons c t ih =>
    obtain ⟨ls, hne, hno, rfl⟩ := ih
    obtain ⟨h, r, rfl⟩ := List.exists_cons_of_ne_nil hne
    by_cases hc : c = sep
    · exact ⟨[] :: h :: r, List.cons_ne_nil _ _, List.forall_mem_cons.mpr ⟨List.forall_mem_nil _, hno⟩,
        by rw [hc, List.intercalate_cons_cons]; rfl⟩
    · obtain ⟨hh, hr⟩ := List.forall_mem_cons.mp hno
      exact ⟨(c :: h) :: r, List.cons_ne_nil _ _, List.forall_mem_cons.mpr ⟨List.forall_mem_cons.mpr ⟨hc, hh⟩, hr⟩,
        by simp only [intercalate_cons, List.cons_append]⟩

theorem splitByte_spec (s : Bytes) (sep : Byte) :
    splitByte s sep ≠ [] ∧ (∀ l ∈ splitByte s sep, ∀ b ∈ l, b ≠ sep) ∧ List.intercalate [sep] (splitByte s sep) = s := by
  obtain ⟨ls, hne, hno, rfl⟩ := exists_pieces s sep
  rw [splitByte_intercalate sep ls hne hno]
  exact ⟨hne, hno, rfl⟩

theorem splitByte_noSep (s : Bytes) (sep : Byte) (h : ∀ b ∈ s, b ≠ sep) : splitByte s sep = [s] := by
  rw [splitByte, splitByte_go_noSep s [] [] sep h]; rfl

theorem indexByte_go_first (a t : Bytes) (sep : Byte) (i : Nat) (h : ∀ b ∈ a, b ≠ sep) :
    indexByte.go sep (a ++ sep :: t) i = some (i + a.length) := by
  induction a generalizing i with
  | nil => exact if_pos (beq_self_eq_true sep)
  | cons c a ih =>
    have hc : (c == sep) = false := beq_false_of_ne (h c List.mem_cons_self)
    simp only [List.cons_append, indexByte.go, hc, Bool.false_eq_true, if_false]
    rw [ih _ (fun b hb => h b (List.mem_cons_of_mem _ hb)), List.length_cons, Nat.add_right_comm]
    rfl

theorem cutByte_first (a t : Bytes) (sep : Byte) (h : ∀ b ∈ a, b ≠ sep) :
    cutByte (a ++ sep :: t) sep = (a, some t) := by
  simp [cutByte, indexByte, indexByte_go_first a t sep 0 h]

theorem span_first {α} {p : α → Bool} {a r : List α} (ha : ∀ x ∈ a, p x = true) (hr : ∀ c ∈ r.head?, p c = false) :
    (a ++ r).takeWhile p = a ∧ (a ++ r).dropWhile p = r := by
  rw [List.takeWhile_append_of_pos ha, List.dropWhile_append_of_pos ha]
  cases r with
  | nil => exact ⟨List.append_nil a, rfl⟩
  | cons c r => rw [List.takeWhile_cons, List.dropWhile_cons, hr c rfl]; exact ⟨List.append_nil a, rfl⟩

theorem toNat_digit (d : Nat) (h : d < 10) : (UInt8.ofNat (48 + d)).toNat = 48 + d :=
  UInt8.toNat_ofNat_of_lt' (Nat.lt_of_lt_of_le (Nat.add_lt_add_left h 48) (by decide))

theorem natToDec_lt (d : Nat) (h : d < 10) : natToDec d = [UInt8.ofNat (48 + d)] := by
  simp [natToDec, Nat.toDigits_of_lt_base h, Nat.toNat_digitChar_of_lt_ten h]

theorem natToDec_ge (n : Nat) (h : 10 ≤ n) : natToDec n = natToDec (n / 10) ++ [UInt8.ofNat (48 + n % 10)] := by
  simp [natToDec, Nat.toDigits_of_base_le (by decide) h, Nat.toNat_digitChar_of_lt_ten (Nat.mod_lt n (by decide))]

theorem isDigit_digit (d : Nat) (h : d < 10) : isDigit (UInt8.ofNat (48 + d)) = true := by
  simp only [isDigit, toNat_digit d h, Bool.and_eq_true, decide_eq_true_eq]
  exact ⟨Nat.le_add_right 48 d, Nat.add_le_add_left (Nat.le_of_lt_succ h) 48⟩

theorem dec_induction {P : Nat → Prop} (lt : ∀ d, d < 10 → P d) (ge : ∀ n, 10 ≤ n → P (n / 10) → P n) (n : Nat) :
    P n := by
  induction n using Nat.strongRecOn with
  | _ n ih =>
    by_cases h : n < 10
    · exact lt n h
    · have h10 := Nat.le_of_not_lt h
      exact ge n h10 (ih _ (Nat.div_lt_self (Nat.lt_of_lt_of_le (by decide) h10) (by decide)))

theorem natToDec_digits (n : Nat) : (natToDec n).all isDigit = true := by
  induction n using dec_induction with
  | lt d h => rw [natToDec_lt d h, List.all_cons, isDigit_digit d h]; rfl
  | ge n h ih => rw [natToDec_ge n h, List.all_append, ih, List.all_cons, isDigit_digit _ (Nat.mod_lt n (by decide))]; rfl

theorem natToDec_ne_nil (n : Nat) : natToDec n ≠ [] := by
  simp [natToDec, Nat.toDigits_ne_nil]

theorem natToDec_value (n : Nat) :
    (natToDec n).foldl (fun a (b : Byte) => a * 10 + (b.toNat - 48)) 0 = n := by
  induction n using dec_induction with
  | lt d h => rw [natToDec_lt d h, List.foldl_cons, List.foldl_nil, toNat_digit d h, Nat.zero_mul, Nat.zero_add,
      Nat.add_sub_cancel_left]
  | ge n h ih =>
    rw [natToDec_ge n h, List.foldl_append, ih, List.foldl_cons, List.foldl_nil, toNat_digit _ (Nat.mod_lt n (by decide)),
      Nat.add_sub_cancel_left]
    exact Nat.div_add_mod' n 10

theorem natToDec_code (n : Nat) (h1 : 100 ≤ n) (h2 : n ≤ 999) :
    ∃ a b c : Byte, natToDec n = [a, b, c] ∧ isDigit a = true ∧ isDigit b = true ∧ isDigit c = true ∧
      (a.toNat - 48) * 100 + (b.toNat - 48) * 10 + (c.toNat - 48) = n := by
  have h10 : 10 ≤ n / 10 := (Nat.le_div_iff_mul_le (by decide)).mpr h1
  have ha : n / 10 / 10 < 10 := by
    rw [Nat.div_div_eq_div_mul]; exact (Nat.div_lt_iff_lt_mul (by decide)).mpr (Nat.lt_succ_of_le h2)
  obtain ⟨a, b, c, e⟩ : ∃ a b c, natToDec n = [a, b, c] := ⟨_, _, _, by
    rw [natToDec_ge n (Nat.le_trans (by decide) h1), natToDec_ge (n / 10) h10, natToDec_lt (n / 10 / 10) ha]; rfl⟩
  have hd := natToDec_digits n
  have hv := natToDec_value n
  rw [e] at hd hv
  simp only [List.all_cons, List.all_nil, Bool.and_true, Bool.and_eq_true] at hd
  simp only [List.foldl_cons, List.foldl_nil, Nat.zero_mul, Nat.zero_add, Nat.add_mul, Nat.mul_assoc, Nat.reduceMul] at hv
  exact ⟨a, b, c, e, hd.1, hd.2.1, hd.2.2, hv⟩

theorem ne_of_class {p : Byte → Bool} {b c : Byte} (hb : p b = true) (hc : p c = false := by decide) : b ≠ c :=
  fun e => by rw [e, hc] at hb; cases hb

theorem head_ne_of_class {p : Byte → Bool} {b c : Byte} {l : Bytes} (h : (b :: l).all p = true) (hc : p c = false := by decide) :
    b ≠ c := ne_of_class (List.all_eq_true.mp h b List.mem_cons_self) hc

theorem parseUintDec_natToDec (n bits : Nat) (h : n < 2 ^ bits) : parseUintDec (natToDec n) bits = some n := by
  simp only [parseUintDec, List.isEmpty_eq_false_iff.mpr (natToDec_ne_nil n), natToDec_digits, natToDec_value, h,
    Bool.false_or, Bool.not_true, Bool.false_eq_true, if_false, if_true]

theorem intToDec_nonneg (i : Int) (h : 0 ≤ i) : intToDec i = natToDec i.toNat := if_neg (Int.not_lt.mpr h)

theorem intToDec_mem {P : Byte → Prop} (hm : P 45) (hd : ∀ b, isDigit b = true → P b) (i : Int) : ∀ b ∈ intToDec i, P b := by
  have hn : ∀ n, ∀ b ∈ natToDec n, P b := fun n b hb => hd b (List.all_eq_true.mp (natToDec_digits n) b hb)
  exact forall_mem_ite (fun _ => List.forall_mem_cons.mpr ⟨hm, hn _⟩) fun _ => hn _

theorem hasSuffix_iff {s p : Bytes} : hasSuffix s p = true ↔ p <:+ s := by
  rw [hasSuffix, List.isPrefixOf_iff_prefix, List.reverse_prefix]

theorem hasSuffix_append (t p : Bytes) : hasSuffix (t ++ p) p = true := hasSuffix_iff.mpr (List.suffix_append t p)

theorem hasSuffix_last_ne {t p : Bytes} {x y : Byte} (h : x ≠ y) : hasSuffix (t ++ [x]) (p ++ [y]) = false := by
  refine Bool.eq_false_iff.mpr fun hs => h ?_
  obtain ⟨u, e⟩ := hasSuffix_iff.mp hs
  have := congrArg List.getLast? e
  rw [← List.append_assoc, List.getLast?_concat, List.getLast?_concat] at this
  exact (Option.some.inj this).symm

end SmtpV.Text

namespace SmtpV.Xtext
open SmtpV SmtpV.Text

theorem decodeRune_ascii (b : Byte) (t : Bytes) (h : b.toNat < 128) : decodeRune (b :: t) = some (b.toNat, 1) :=
  if_pos h

theorem runesAux_ascii (s : Bytes) (fuel : Nat) (hf : s.length ≤ fuel) (h : ∀ b ∈ s, b.toNat < 128) :
    runesAux fuel s = s.map (fun b => (b.toNat, 1)) := by
  induction s generalizing fuel with
  | nil => cases fuel <;> rfl
  | cons b t ih =>
    cases fuel with
    | zero => exact absurd hf (Nat.not_succ_le_zero _)
    | succ fuel =>
      simp only [runesAux, decodeRune_ascii b t (h b List.mem_cons_self), List.drop_one, List.tail_cons, List.map_cons]
      rw [ih fuel (Nat.le_of_succ_le_succ hf) (fun x hx => h x (List.mem_cons_of_mem _ hx))]

theorem runes_ascii (s : Bytes) (h : ∀ b ∈ s, b.toNat < 128) : runes s = s.map (fun b => (b.toNat, 1)) :=
  runesAux_ascii s s.length (Nat.le_refl _) h

end SmtpV.Xtext

namespace SmtpV.LineTrip
open SmtpV SmtpV.Text SmtpV.Xtext

def Ascii (s : Bytes) : Prop := ∀ b ∈ s, b.toNat < 128

theorem Ascii.append {a b : Bytes} (ha : Ascii a) (hb : Ascii b) : Ascii (a ++ b) := by
  intro x hx; rcases List.mem_append.mp hx with h | h
  · exact ha x h
  · exact hb x h

theorem Ascii.isASCII {s : Bytes} (h : Ascii s) : isASCII s = true := by
  unfold Text.isASCII; simp only [List.all_eq_true, decide_eq_true_eq]; exact h

theorem toUpper_ascii (s : Bytes) (hs : Ascii s) :
    toUpper s = s.map (fun b => if 97 ≤ b.toNat && b.toNat ≤ 122 then b - 32 else b) := by
  unfold toUpper; rw [hs.isASCII]; rfl

/-- not a white-space octet (as `unicode.IsSpace` sees a 7-bit octet) -/
def NoSp (b : Byte) : Prop := isSpaceRune b.toNat = false

theorem trimLeftSpace_id (s : Bytes) (hs : Ascii s) (hh : ∀ b t, s = b :: t → NoSp b) : trimLeftSpace s = s := by
  unfold trimLeftSpace
  cases s with
  | nil => rfl
  | cons b t =>
    have hb := hs b List.mem_cons_self
    have := hh b t rfl
    unfold NoSp at this
    simp [trimLeftSpace.go, decodeRune_ascii b t hb, this]

theorem drop_ascii_head (s : Bytes) (hs : Ascii s) (k : Nat) (hk : k < s.length) :
    ∃ b t, s.drop k = b :: t ∧ b.toNat < 128 ∧ (k + 1 = s.length → s.getLast? = some b) := by
  refine ⟨s[k], s.drop (k + 1), List.drop_eq_getElem_cons hk, hs _ (List.getElem_mem hk), ?_⟩
  intro h
  rw [List.getLast?_eq_getElem?, ← h, Nat.add_sub_cancel, List.getElem?_eq_getElem hk]

theorem lastSpaceWidth_zero (s : Bytes) (hs : Ascii s) (hl : ∀ b, s.getLast? = some b → NoSp b) : lastSpaceWidth s = 0 := by
  unfold lastSpaceWidth
  extract_lets n try_
  have fails : ∀ w, 1 ≤ w → try_ w = false := by
    intro w h1
    by_cases hw : w ≤ n
    · obtain ⟨b, t, hd, hb, hlast⟩ := drop_ascii_head s hs (n - w) (Nat.sub_lt_of_pos_le h1 hw)
      show (if w ≤ n then _ else false) = false
      rw [if_pos hw, hd, decodeRune_ascii b t hb]
      by_cases e : w = 1
      · subst e
        exact Bool.and_eq_false_iff.mpr (Or.inr (hl b (hlast (Nat.sub_add_cancel hw))))
      · exact Bool.and_eq_false_iff.mpr (Or.inl (beq_false_of_ne (Ne.symm e)))
    · exact if_neg hw
  rw [fails 1 (Nat.le_refl 1), fails 2 (by decide), fails 3 (by decide)]
  rfl

theorem trimRightSpace_id (s : Bytes) (hs : Ascii s) (hl : ∀ b, s.getLast? = some b → NoSp b) : trimRightSpace s = s := by
  unfold trimRightSpace
  cases h : s.length with
  | zero => rfl
  | succ n => rw [trimRightSpace.go, lastSpaceWidth_zero s hs hl]; rfl

theorem trimSpace_id (s : Bytes) (hs : Ascii s) (hh : ∀ b t, s = b :: t → NoSp b) (hl : ∀ b, s.getLast? = some b → NoSp b) :
    trimSpace s = s := by
  unfold trimSpace
  rw [trimLeftSpace_id s hs hh, trimRightSpace_id s hs hl]

theorem trimRightCRLF_crlf (x : Bytes) (hl : ∀ b, x.getLast? = some b → b ≠ CR ∧ b ≠ LF) :
    trimRightCRLF (x ++ [CR, LF]) = x := by
  unfold trimRightCRLF
  rw [List.reverse_append]
  -- `dropWhile` passes LF and CR by evaluation
  show (x.reverse.dropWhile _).reverse = x
  cases hx : x.reverse with
  | nil => exact (List.reverse_eq_nil_iff.mp hx).symm
  | cons b t =>
    obtain ⟨h1, h2⟩ := hl b (by rw [List.getLast?_eq_head?_reverse, hx]; rfl)
    rw [List.dropWhile_cons_of_neg (by simp [h1, h2]), ← hx, List.reverse_reverse]

theorem getLast?_append_ne (a b : Bytes) (hb : b ≠ []) : (a ++ b).getLast? = b.getLast? := by
  rw [List.getLast?_append]
  cases h : b.getLast? with
  | none => exact absurd (List.getLast?_eq_none_iff.mp h) hb
  | some x => rfl

end SmtpV.LineTrip
