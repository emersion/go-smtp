import SmtpV.Model.Xtext
import SmtpV.Proofs.TextFacts
/-!
Round trip of the xtext codec: `decodeXtext (encodeXtext s) = some s` for every string of 7-bit
octets (RFC 3461 xtext as implemented in conn.go, with two-digit hexchars).
-/
namespace SmtpV.Xtext
open SmtpV SmtpV.Text

def encByte (b : Byte) : Bytes := if xtextSafe b.toNat then [b] else 43 :: hex02 b.toNat

theorem encodeXtext_ascii (s : Bytes) (h : ∀ b ∈ s, b.toNat < 128) : encodeXtext s = s.flatMap encByte := by
  unfold encodeXtext encByte
  rw [runes_ascii s h, List.flatMap_map]
  simp only [UInt8.ofNat_toNat]

theorem hexDigit_facts : ∀ n : Fin 16, isUpperHex (hexDigitU n.val) = true ∧ hexValB (hexDigitU n.val) = n.val := by decide +kernel

theorem hexDigitU_isUpperHex (n : Nat) (h : n < 16) : isUpperHex (hexDigitU n) = true := (hexDigit_facts ⟨n, h⟩).1

theorem hexValB_hexDigitU (n : Nat) (h : n < 16) : hexValB (hexDigitU n) = n := (hexDigit_facts ⟨n, h⟩).2

theorem hex02_small (n : Nat) (h : n < 128) : hex02 n = [hexDigitU (n / 16), hexDigitU (n % 16)] := by
  unfold hex02
  by_cases h16 : n < 16
  · rw [if_pos h16, Nat.div_eq_of_lt h16, Nat.mod_eq_of_lt h16]; rfl
  · have h2 : n / 16 < 16 := Nat.div_lt_of_lt_mul (Nat.lt_trans h (by decide))
    rw [if_neg h16, hexU, if_neg h16, hexU, if_pos h2]
    rfl

theorem decodeXtextAux_cons (c : Byte) (t : Bytes) (hc : c ≠ 43) :
    decodeXtextAux (c :: t) = (decodeXtextAux t).map (fun r => c :: r) :=
  -- the definition's last equation; its hypotheses say that the patterns before it do not match
  decodeXtextAux.eq_4 c t (fun _ _ _ e _ => hc e) hc

theorem decodeAux_encByte (b : Byte) (r : Bytes) (h : b.toNat < 128) :
    decodeXtextAux (encByte b ++ r) = (decodeXtextAux r).map (fun x => b :: x) := by
  unfold encByte
  by_cases hs : xtextSafe b.toNat = true
  · have hne : b ≠ 43 := by
      intro e; subst e; exact absurd hs (by decide)
    rw [if_pos hs]
    exact decodeXtextAux_cons b r hne
  · rw [if_neg hs, hex02_small _ h]
    have h1 : b.toNat / 16 < 16 := Nat.div_lt_of_lt_mul (Nat.lt_trans h (by decide))
    have h2 : b.toNat % 16 < 16 := Nat.mod_lt _ (by decide)
    have hv : 16 * (b.toNat / 16) + b.toNat % 16 = b.toNat := Nat.div_add_mod _ 16
    simp only [List.cons_append, List.nil_append, decodeXtextAux, hexDigitU_isUpperHex _ h1, hexDigitU_isUpperHex _ h2,
      hexValB_hexDigitU _ h1, hexValB_hexDigitU _ h2, hv, Bool.and_self, Bool.true_and]
    rw [if_pos (decide_eq_true h), UInt8.ofNat_toNat]

theorem decodeAux_enc (s : Bytes) (h : ∀ b ∈ s, b.toNat < 128) : decodeXtextAux (s.flatMap encByte) = some s := by
  induction s with
  | nil => rfl
  | cons b t ih =>
    rw [List.flatMap_cons, decodeAux_encByte b _ (h b List.mem_cons_self), ih fun x hx => h x (List.mem_cons_of_mem _ hx)]
    rfl

theorem decodeAux_noplus (t : Bytes) (h : containsByte t 43 = false) : decodeXtextAux t = some t := by
  induction t with
  | nil => rfl
  | cons c t ih =>
    obtain ⟨hc, ht⟩ := Bool.or_eq_false_iff.mp h
    rw [decodeXtextAux_cons c t (ne_of_beq_false hc), ih ht]
    rfl

/-- the fast path of `decodeXtext` (no `+` in the input) returns what the scanner would -/
theorem decodeXtext_eq_aux (s : Bytes) : decodeXtext s = decodeXtextAux s := by
  unfold decodeXtext
  cases hn : containsByte s 43 with
  | false => exact (decodeAux_noplus s hn).symm
  | true => rfl

/-- **xtext_roundtrip.**  On all of 7-bit ASCII the xtext encoder and decoder are exact inverses. -/
theorem xtext_roundtrip (s : Bytes) (h : ∀ b ∈ s, b.toNat < 128) : decodeXtext (encodeXtext s) = some s := by
  rw [decodeXtext_eq_aux, encodeXtext_ascii s h, decodeAux_enc s h]

end SmtpV.Xtext
