import SmtpV.Proofs.XtextRT
import SmtpV.Proofs.OneLine
import SmtpV.Proofs.PathParse
import SmtpV.Proofs.ParamSwitch
import SmtpV.Proofs.ParamGated
/-!
The client-to-server trip of MAIL and RCPT parameters on the models (C14): what the client's encoders write, the server's
tokeniser (`strings.Fields`), parameter parser (`parseArgs`) and parameter switches (`mailParams`, `rcptParams`) read back
unchanged.
-/
namespace SmtpV.Props.C14
open SmtpV SmtpV.Spec SmtpV.Text SmtpV.Xtext SmtpV.Parse SmtpV.Server SmtpV.Props.C11

theorem printable_lt128 (v : Bytes) (h : isPrintableASCII v = true) : ∀ b ∈ v, b.toNat < 128 := by
  intro b hb
  have := List.all_eq_true.mp h b hb
  simp only [Bool.and_eq_true, decide_eq_true_eq] at this
  omega

theorem parseMailbox_alone (lp dom : Bytes) (hlp : lp ≠ []) (hlpok : lp.all lpOk = true)
    (hdom : dom ≠ []) (hdomok : dom.all domOk = true) (hlast : dom.getLast? ≠ some 64) :
    parseMailbox (lp ++ [64] ++ dom) = some (lp ++ [64] ++ dom, []) := by
  have := parseMailbox_of_local _ lp dom [] (parseLocalPart_dot lp (dom ++ []) hlp hlpok) hlp hdom hdomok hlast (by simp)
  simpa using this

theorem mailParams_size (cfg : Cfg) (rest : List (Bytes × Bytes)) (o : MailOpts) (bm : Bool) (n : Nat) (h : n < 2 ^ 32)
    (hm : cfg.maxMsg = 0 ∨ n ≤ cfg.maxMsg) :
    mailParams cfg (("SIZE".b, natToDec n) :: rest) o bm = mailParams cfg rest { o with size := n } bm := by
  rw [mailParams_SIZE, parseUintDec_natToDec n 63 (Nat.lt_trans h (by decide))]
  exact if_neg (by simp only [Bool.and_eq_true, decide_eq_true_eq]; omega)

theorem mailParams_envid (cfg : Cfg) (rest : List (Bytes × Bytes)) (o : MailOpts) (bm : Bool) (v : Bytes)
    (hd : cfg.dsn = true) (hv : v ≠ []) (hp : isPrintableASCII v = true) :
    mailParams cfg (("ENVID".b, encodeXtext v) :: rest) o bm = mailParams cfg rest { o with envid := v } bm := by
  rw [mailParams_ENVID, hd, xtext_roundtrip v (printable_lt128 v hp)]
  simp [hv, hp]

theorem mailParams_auth_null (cfg : Cfg) (rest : List (Bytes × Bytes)) (o : MailOpts) (bm : Bool) :
    mailParams cfg (("AUTH".b, "<>".b) :: rest) o bm = mailParams cfg rest { o with auth := some [] } bm := by
  rw [mailParams_AUTH, show decodeXtext "<>".b = some "<>".b by decide +kernel]
  rfl

/-- a mailbox of the class every client sends (dot-string local part), in 7-bit ASCII -/
def plainMailbox (a : Bytes) : Prop :=
  ∃ lp dom, a = lp ++ [64] ++ dom ∧ lp ≠ [] ∧ lp.all lpOk = true ∧ dom ≠ [] ∧ dom.all domOk = true ∧
    dom.getLast? ≠ some 64 ∧ ∀ b ∈ lp ++ [64] ++ dom, b.toNat < 128

theorem mailParams_auth (cfg : Cfg) (rest : List (Bytes × Bytes)) (o : MailOpts) (bm : Bool) (a : Bytes) (h : plainMailbox a) :
    mailParams cfg (("AUTH".b, encodeXtext a) :: rest) o bm = mailParams cfg rest { o with auth := some a } bm := by
  obtain ⟨lp, dom, rfl, hlp, hlpok, hdom, hdomok, hlast, hascii⟩ := h
  obtain ⟨c, lp', rfl⟩ := List.exists_cons_of_ne_nil hlp
  have hne : ((c :: lp' ++ [64] ++ dom) == [60, 62]) = false :=
    beq_eq_false_iff_ne.mpr fun e => head_ne_of_class hlpok rfl (List.head_eq_of_cons_eq e)
  rw [mailParams_AUTH, xtext_roundtrip _ hascii, show "<>".b = [60, 62] by decide +kernel]
  simp only [hne, parseMailbox_alone _ dom hlp hlpok hdom hdomok hlast]
  rfl

theorem mailParams_utf8 (cfg : Cfg) (rest : List (Bytes × Bytes)) (o : MailOpts) (bm : Bool) (h : cfg.utf8 = true) :
    Server.mailParams cfg (("SMTPUTF8".b, []) :: rest) o bm = Server.mailParams cfg rest { o with utf8 := true } bm := by
  rw [mailParams_SMTPUTF8, h]; rfl

theorem mailParams_reqtls (cfg : Cfg) (rest : List (Bytes × Bytes)) (o : MailOpts) (bm : Bool) (h : cfg.reqtls = true) :
    Server.mailParams cfg (("REQUIRETLS".b, []) :: rest) o bm = Server.mailParams cfg rest { o with requireTLS := true } bm := by
  rw [mailParams_REQUIRETLS, h]; rfl

/-- the BODY values the client can send -/
def bodyVal (v : Bytes) : Prop := v = "7BIT".b ∨ v = "8BITMIME".b ∨ v = "BINARYMIME".b

theorem mailParams_body (cfg : Cfg) (rest : List (Bytes × Bytes)) (o : MailOpts) (bm : Bool) (v : Bytes) (hv : bodyVal v)
    (h : cfg.binmime = true) :
    Server.mailParams cfg (("BODY".b, v) :: rest) o bm =
      Server.mailParams cfg rest { o with body := v } (if v == "BINARYMIME".b then true else bm) := by
  have hu : toUpper v = v := by rcases hv with e | e | e <;> rw [e] <;> decide +kernel
  rw [mailParams_BODY, hu, h]
  rcases hv with e | e | e <;> rw [e] <;> simp [String.b_inj]

theorem bodyVal_sent {body : Bytes} (h : body = [] ∨ bodyVal body) : bodyVal (if body.isEmpty then "8BITMIME".b else body) := by
  cases hb : body.isEmpty
  · exact h.resolve_left fun e => by rw [e] at hb; cases hb
  · exact Or.inr (Or.inl rfl)

def retVal (v : Bytes) : Prop := v = "FULL".b ∨ v = "HDRS".b

theorem mailParams_ret (cfg : Cfg) (rest : List (Bytes × Bytes)) (o : MailOpts) (bm : Bool) (v : Bytes) (hv : retVal v)
    (h : cfg.dsn = true) :
    Server.mailParams cfg (("RET".b, v) :: rest) o bm = Server.mailParams cfg rest { o with ret := v } bm := by
  have hu : toUpper v = v := by rcases hv with e | e <;> rw [e] <;> decide +kernel
  rw [mailParams_RET, hu, h]
  rcases hv with e | e <;> rw [e] <;> simp

/-- a printing, non-space ASCII octet -/
def graphic (b : Byte) : Bool := 0x21 ≤ b.toNat && b.toNat ≤ 0x7E

theorem graphic_iff (b : Byte) : graphic b = true ↔ 0x21 ≤ b.toNat ∧ b.toNat ≤ 0x7E := by
  simp only [graphic, Bool.and_eq_true, decide_eq_true_eq]

theorem isSpaceRune_graphic (b : Byte) (h : graphic b = true) : isSpaceRune b.toNat = false := by
  rw [graphic_iff] at h
  simp only [isSpaceRune, Bool.or_eq_false_iff, Bool.and_eq_false_iff, beq_eq_false_iff_ne, decide_eq_false_iff_not]
  omega

theorem graphic_lt (b : Byte) (h : graphic b = true) : b.toNat < 128 :=
  Nat.lt_of_le_of_lt ((graphic_iff b).mp h).2 (by decide)

def rl (s : Bytes) : List (Nat × Nat) := s.map (fun b => (b.toNat, 1))

theorem fieldsAux_token (t r cur : Bytes) (acc : List Bytes) (ht : t.all graphic = true) :
    fieldsAux (rl (t ++ r)) (t ++ r) cur acc = fieldsAux (rl r) r (t.reverse ++ cur) acc := by
  induction t generalizing cur with
  | nil => rfl
  | cons b t ih =>
    rw [List.all_cons, Bool.and_eq_true] at ht
    rw [List.reverse_cons, List.append_assoc, List.singleton_append, ← ih (b :: cur) ht.2]
    exact if_neg (by rw [isSpaceRune_graphic b ht.1]; exact Bool.false_ne_true)

theorem fieldsAux_space (r cur : Bytes) (acc : List Bytes) :
    fieldsAux (rl (SP :: r)) (SP :: r) cur acc = fieldsAux (rl r) r [] (if cur.isEmpty then acc else cur.reverse :: acc) :=
  if_pos (by decide)

/-- the client's parameter string: every token preceded by one space -/
def spaced (ts : List Bytes) : Bytes := ts.flatMap (fun t => SP :: t)

theorem fieldsAux_spaced (ts : List Bytes) (hts : ∀ t ∈ ts, t ≠ [] ∧ t.all graphic = true) (cur : Bytes) (acc : List Bytes) :
    fieldsAux (rl (spaced ts)) (spaced ts) cur acc =
      (ts.reverse ++ (if cur.isEmpty then acc else cur.reverse :: acc)).reverse := by
  induction ts generalizing cur acc with
  | nil => rfl
  | cons t ts ih =>
    have ht := hts t List.mem_cons_self
    have hsp : spaced (t :: ts) = SP :: (t ++ spaced ts) := rfl
    rw [hsp, fieldsAux_space, fieldsAux_token _ _ _ _ ht.2, ih fun x hx => hts x (List.mem_cons_of_mem _ hx)]
    simp [ht.1]

theorem spaced_ascii (ts : List Bytes) (hts : ∀ t ∈ ts, t ≠ [] ∧ t.all graphic = true) : ∀ b ∈ spaced ts, b.toNat < 128 := by
  intro b hb
  simp only [spaced, List.mem_flatMap, List.mem_cons] at hb
  obtain ⟨t, ht, hb⟩ := hb
  rcases hb with rfl | hb
  · decide
  · exact graphic_lt b (List.all_eq_true.mp (hts t ht).2 b hb)

theorem fields_spaced (ts : List Bytes) (hts : ∀ t ∈ ts, t ≠ [] ∧ t.all graphic = true) : fields (spaced ts) = ts := by
  unfold fields
  rw [runes_ascii _ (spaced_ascii ts hts)]
  have := fieldsAux_spaced ts hts [] []
  simp only [rl] at this
  rw [this]
  simp

/-- a parameter as the client writes it: `KEYWORD` or `KEYWORD=value` -/
def renderParam (p : Bytes × Bytes) : Bytes := if p.2.isEmpty then p.1 else p.1 ++ [61] ++ p.2

/-- keywords: upper-case letters and digits -/
def keyByte (b : Byte) : Bool := (65 ≤ b.toNat && b.toNat ≤ 90) || (48 ≤ b.toNat && b.toNat ≤ 57)
/-- values: printing non-space ASCII without `=` (what every encoder of the client produces) -/
def valByte (b : Byte) : Bool := graphic b && b != 61

structure ParamOk (p : Bytes × Bytes) : Prop where
  key : p.1 ≠ []
  keyb : p.1.all keyByte = true
  valb : p.2.all valByte = true

theorem graphic_of_class {p : Byte → Bool} (hp : ∀ b, p b = true → graphic b = true) {l : Bytes} (h : l.all p = true) :
    l.all graphic = true := List.all_eq_true.mpr fun b hb => hp b (List.all_eq_true.mp h b hb)

theorem keyByte_graphic (b : Byte) (h : keyByte b = true) : graphic b = true := by
  rw [graphic_iff]
  simp only [keyByte, Bool.or_eq_true, Bool.and_eq_true, decide_eq_true_eq] at h; omega

theorem map_eq_self {α} (l : List α) (f : α → α) (h : ∀ b ∈ l, f b = b) : l.map f = l :=
  (List.map_congr_left h).trans (List.map_id l)

theorem toUpper_key (k : Bytes) (h : k.all keyByte = true) : toUpper k = k := by
  have hk : ∀ b ∈ k, b.toNat < 97 := fun b hb => by
    have := List.all_eq_true.mp h b hb
    simp only [keyByte, Bool.or_eq_true, Bool.and_eq_true, decide_eq_true_eq] at this; omega
  rw [LineTrip.toUpper_ascii k fun b hb => Nat.lt_trans (hk b hb) (by decide)]
  exact map_eq_self k _ fun b hb => if_neg fun hlow =>
    Nat.not_le_of_lt (hk b hb) (of_decide_eq_true (Bool.and_eq_true_iff.mp hlow).1)

theorem splitByte_two (a b : Bytes) (sep : Byte) (ha : ∀ x ∈ a, x ≠ sep) (hb : ∀ x ∈ b, x ≠ sep) :
    splitByte (a ++ [sep] ++ b) sep = [a, b] := by
  simpa [List.intercalate, List.intersperse] using splitByte_intercalate sep [a, b] (List.cons_ne_nil _ _)
    (List.forall_mem_cons.mpr ⟨ha, List.forall_mem_singleton.mpr hb⟩)

theorem insertArg_new (m : List (Bytes × Bytes)) (k v : Bytes) (h : ∀ p ∈ m, p.1 ≠ k) : insertArg m k v = m ++ [(k, v)] := by
  unfold insertArg
  have : m.any (fun p => p.1 == k) = false := by
    simp only [List.any_eq_false, beq_iff_eq]
    intro p hp; exact h p hp
  simp [this]

def argStep (acc : Option (List (Bytes × Bytes))) (arg : Bytes) : Option (List (Bytes × Bytes)) :=
  match acc with
  | none => none
  | some m =>
    match splitByte arg 61 with
    | [k, v] => if v.isEmpty then none else some (insertArg m (toUpper k) v)
    | [k] => some (insertArg m (toUpper k) [])
    | _ => none

theorem parseArgs_eq (s : Bytes) : parseArgs s = (fields s).foldl argStep (some []) := rfl

theorem argStep_param (m : List (Bytes × Bytes)) (p : Bytes × Bytes) (hp : ParamOk p) (hnew : ∀ q ∈ m, q.1 ≠ p.1) :
    argStep (some m) (renderParam p) = some (m ++ [p]) := by
  obtain ⟨k, v⟩ := p
  have hk : ∀ x ∈ k, x ≠ 61 := fun x hx => ne_of_class (List.all_eq_true.mp hp.keyb x hx)
  have hv : ∀ x ∈ v, x ≠ 61 := fun x hx => ne_of_class (List.all_eq_true.mp hp.valb x hx)
  unfold argStep renderParam
  cases v with
  | nil => simp only [List.isEmpty_nil, if_true, splitByte_noSep k 61 hk, toUpper_key k hp.keyb, insertArg_new m k [] hnew]
  | cons c v =>
    simp only [List.isEmpty_cons, Bool.false_eq_true, if_false, splitByte_two k _ 61 hk hv, toUpper_key k hp.keyb,
      insertArg_new m k _ hnew]

theorem foldl_params (ps : List (Bytes × Bytes)) (hps : ∀ p ∈ ps, ParamOk p) (hnd : (ps.map (·.1)).Nodup) :
    ∀ (m : List (Bytes × Bytes)), (∀ q ∈ m, ∀ p ∈ ps, q.1 ≠ p.1) →
      (ps.map renderParam).foldl argStep (some m) = some (m ++ ps) := by
  induction ps with
  | nil => intro m _; rw [List.append_nil]; rfl
  | cons p ps ih =>
    intro m hm
    rw [List.map_cons, List.nodup_cons] at hnd
    rw [List.map_cons, List.foldl_cons, argStep_param m p (hps p List.mem_cons_self) fun q hq => hm q hq p List.mem_cons_self,
      ih (fun x hx => hps x (List.mem_cons_of_mem _ hx)) hnd.2 (m ++ [p]), List.append_assoc, List.singleton_append]
    intro q hq x hx
    rcases List.mem_append.mp hq with hq | hq
    · exact hm q hq x (List.mem_cons_of_mem _ hx)
    · rw [List.mem_singleton.mp hq]
      exact fun e => hnd.1 (e ▸ List.mem_map_of_mem hx)

theorem renderParam_token (p : Bytes × Bytes) (hp : ParamOk p) : renderParam p ≠ [] ∧ (renderParam p).all graphic = true := by
  obtain ⟨k, v⟩ := p
  have hkg : k.all graphic = true := graphic_of_class keyByte_graphic hp.keyb
  have hvg : v.all graphic = true := graphic_of_class (fun _ h => (Bool.and_eq_true _ _ ▸ h).1) hp.valb
  have hkne : k ≠ [] := hp.key
  unfold renderParam
  dsimp only
  cases v.isEmpty
  · refine ⟨List.append_ne_nil_of_left_ne_nil (List.append_ne_nil_of_left_ne_nil hkne _) _, ?_⟩
    rw [if_neg Bool.false_ne_true, List.all_append, List.all_append, hkg, hvg]
    rfl
  · exact ⟨hkne, hkg⟩

theorem rendered_tokens (ps : List (Bytes × Bytes)) (hps : ∀ p ∈ ps, ParamOk p) :
    ∀ t ∈ ps.map renderParam, t ≠ [] ∧ t.all graphic = true := by
  intro t ht
  obtain ⟨p, hp, rfl⟩ := List.mem_map.mp ht
  exact renderParam_token p (hps p hp)

theorem parseArgs_spaced (ps : List (Bytes × Bytes)) (hps : ∀ p ∈ ps, ParamOk p) (hnd : (ps.map (·.1)).Nodup) :
    parseArgs (spaced (ps.map renderParam)) = some ps := by
  rw [parseArgs_eq, fields_spaced _ (rendered_tokens ps hps)]
  simpa using foldl_params ps hps hnd [] (by intro q hq; cases hq)

def bodyT (o : Client.MailOptions) : List (Bytes × Bytes) := [("BODY".b, if o.body.isEmpty then "8BITMIME".b else o.body)]
def sizeT (o : Client.MailOptions) : List (Bytes × Bytes) := if o.size != 0 then [("SIZE".b, natToDec o.size.toNat)] else []
def tlsT (o : Client.MailOptions) : List (Bytes × Bytes) := if o.requireTLS then [("REQUIRETLS".b, [])] else []
def utf8T (o : Client.MailOptions) : List (Bytes × Bytes) := if o.utf8 then [("SMTPUTF8".b, [])] else []
def retT (o : Client.MailOptions) : List (Bytes × Bytes) := if o.ret ≠ [] then [("RET".b, o.ret)] else []
def envidT (o : Client.MailOptions) : List (Bytes × Bytes) := if o.envid ≠ [] then [("ENVID".b, encodeXtext o.envid)] else []
def authT (o : Client.MailOptions) : List (Bytes × Bytes) :=
  match o.auth with
  | none => []
  | some a => [("AUTH".b, if a.isEmpty then "<>".b else encodeXtext a)]

/-- the MAIL parameters the client writes for `o` when every extension is on offer -/
def mailToks (o : Client.MailOptions) : List (Bytes × Bytes) :=
  bodyT o ++ sizeT o ++ tlsT o ++ utf8T o ++ retT o ++ envidT o ++ authT o

/-- the server offered every extension the options may need -/
structure AllExt (ext : List (Bytes × Bytes)) : Prop where
  e8 : Client.hasExt ext "8BITMIME" = true
  bin : Client.hasExt ext "BINARYMIME" = true
  size : Client.hasExt ext "SIZE" = true
  tls : Client.hasExt ext "REQUIRETLS" = true
  utf8 : Client.hasExt ext "SMTPUTF8" = true
  dsn : Client.hasExt ext "DSN" = true
  auth : Client.hasExt ext "AUTH" = true

/-- the MAIL option values the trip theorems are about: the printable-ASCII part of the property's domain -/
structure MailDomain (o : Client.MailOptions) : Prop where
  body : o.body = [] ∨ bodyVal o.body
  size : 0 ≤ o.size ∧ o.size < 2 ^ 32
  ret : o.ret = [] ∨ retVal o.ret
  envid : isPrintableASCII o.envid = true
  auth : ∀ a, o.auth = some a → a = [] ∨ plainMailbox a

theorem spaced_append (a b : List Bytes) : spaced (a ++ b) = spaced a ++ spaced b := by simp [spaced]
theorem spaced_nil : spaced [] = [] := rfl
theorem spaced_one (t : Bytes) : spaced [t] = SP :: t := by simp [spaced]

/-- `lit` is the encoder's literal `" KEYWORD="`; that it is `SP :: (k ++ [61])` is evaluated by the kernel, where a `rfl` at the
    place of use would have the elaborator unfold the literal, which is slow -/
theorem spaced_kv (lit k v : Bytes) (hv : v ≠ []) (hl : lit = SP :: (k ++ [61]) := by decide +kernel) :
    lit ++ v = spaced ([(k, v)].map renderParam) := by
  cases v with
  | nil => exact absurd rfl hv
  | cons c v => rw [hl]; exact (spaced_one _).symm

theorem client_body (ext : List (Bytes × Bytes)) (o : Client.MailOptions) (he : AllExt ext) (hb : o.body = [] ∨ bodyVal o.body) :
    Client.bodyParam ext (some o) = some (spaced ((bodyT o).map renderParam)) := by
  unfold Client.bodyParam bodyT
  simp only [List.map_cons, List.map_nil, spaced_one, renderParam, he.e8, he.bin, if_true]
  rcases bodyVal_sent hb with e | e | e <;> rw [e] <;> decide +kernel

theorem client_size (ext : List (Bytes × Bytes)) (o : Client.MailOptions) (he : AllExt ext) (hs : 0 ≤ o.size) :
    Client.sizeParam ext o = spaced ((sizeT o).map renderParam) := by
  unfold Client.sizeParam sizeT
  simp only [he.size, Bool.true_and]
  split
  · rw [intToDec_nonneg _ hs]
    exact spaced_kv _ _ _ (natToDec_ne_nil _)
  · rfl

theorem client_tls (ext : List (Bytes × Bytes)) (o : Client.MailOptions) (he : AllExt ext) :
    Client.requireTLSParam ext o = some (spaced ((tlsT o).map renderParam)) := by
  unfold Client.requireTLSParam tlsT
  rw [he.tls]
  cases o.requireTLS
  · rfl
  · decide +kernel

theorem client_utf8 (ext : List (Bytes × Bytes)) (o : Client.MailOptions) (he : AllExt ext) :
    Client.utf8Param ext o = some (spaced ((utf8T o).map renderParam)) := by
  unfold Client.utf8Param utf8T
  rw [he.utf8]
  cases o.utf8
  · rfl
  · decide +kernel

theorem client_ret (o : Client.MailOptions) (hr : o.ret = [] ∨ retVal o.ret) :
    Client.retParam o = some (spaced ((retT o).map renderParam)) := by
  unfold Client.retParam retT
  rcases hr with e | e | e <;> rw [e] <;> decide +kernel

theorem encodeXtext_ne_nil (v : Bytes) (h : v ≠ []) (ha : ∀ b ∈ v, b.toNat < 128) : encodeXtext v ≠ [] := by
  obtain ⟨c, t, rfl⟩ := List.exists_cons_of_ne_nil h
  rw [encodeXtext_ascii _ ha, List.flatMap_cons, encByte]
  split <;> simp

theorem client_envid (o : Client.MailOptions) (hp : isPrintableASCII o.envid = true) :
    Client.envidParam o = some (spaced ((envidT o).map renderParam)) := by
  unfold Client.envidParam envidT
  by_cases h : o.envid = []
  · rw [h]; rfl
  · rw [if_neg (mt List.isEmpty_iff.mp h), if_pos h, hp]
    exact congrArg some (spaced_kv _ _ _ (encodeXtext_ne_nil _ h (printable_lt128 _ hp)))

theorem plainMailbox.facts {a : Bytes} (h : plainMailbox a) : a.isEmpty = false ∧ ∀ b ∈ a, b.toNat < 128 := by
  obtain ⟨lp, dom, rfl, hlp, _, _, _, _, hasc⟩ := h
  obtain ⟨c, t, rfl⟩ := List.exists_cons_of_ne_nil hlp
  exact ⟨rfl, hasc⟩

theorem client_auth (ext : List (Bytes × Bytes)) (o : Client.MailOptions) (he : AllExt ext)
    (ha : ∀ a, o.auth = some a → a = [] ∨ plainMailbox a) :
    Client.authParam ext o = spaced ((authT o).map renderParam) := by
  unfold Client.authParam authT
  cases hau : o.auth with
  | none => rfl
  | some a =>
    dsimp only
    rw [he.auth, if_pos rfl]
    rcases ha a hau with rfl | h
    · decide +kernel
    · obtain ⟨hie, hasc⟩ := h.facts
      rw [hie, if_neg Bool.false_ne_true, if_neg Bool.false_ne_true]
      exact spaced_kv _ _ _ (encodeXtext_ne_nil a (List.isEmpty_eq_false_iff.mp hie) hasc)

theorem client_mailParams (ext : List (Bytes × Bytes)) (o : Client.MailOptions) (he : AllExt ext) (hd : MailDomain o) :
    Client.mailParams ext (some o) = some (spaced ((mailToks o).map renderParam)) := by
  unfold Client.mailParams Client.dsnMailParams
  simp only [client_body ext o he hd.body, client_tls ext o he, client_utf8 ext o he, he.dsn, if_true,
    client_ret o hd.ret, client_envid o hd.envid, client_size ext o he hd.size.1, client_auth ext o he hd.auth,
    ← spaced_append, ← List.map_append]
  rw [← List.append_assoc]; rfl

/-- the server configuration enables what the options may use -/
structure CfgOn (cfg : Cfg) (o : Client.MailOptions) : Prop where
  utf8 : cfg.utf8 = true
  reqtls : cfg.reqtls = true
  binmime : cfg.binmime = true
  dsn : cfg.dsn = true
  fits : cfg.maxMsg = 0 ∨ o.size.toNat ≤ cfg.maxMsg

/-- a parameter the client writes only under `c`, in front of a list: the switch `F` consumes it (`hp`), or it is not there and
    the accumulator already has the value it would have set (`ha`) -/
theorem opt_head {τ α β} (F : List τ → α → β) (c : Prop) [Decidable c] (tok : τ) (rest : List τ) (a a' : α)
    (hp : c → F (tok :: rest) a = F rest a') (ha : ¬ c → a = a') :
    F ((if c then [tok] else []) ++ rest) a = F rest a' := by
  split
  · exact hp ‹c›
  · rw [← ha ‹¬ c›]; rfl

theorem step_size (cfg : Cfg) (o : Client.MailOptions) (hc : CfgOn cfg o) (hd : MailDomain o) (rest : List (Bytes × Bytes))
    (o' : MailOpts) (bm : Bool) (h0 : o'.size = 0) :
    Server.mailParams cfg (sizeT o ++ rest) o' bm = Server.mailParams cfg rest { o' with size := o.size.toNat } bm :=
  opt_head (Server.mailParams cfg · · bm) _ _ _ _ _
    (fun _ => mailParams_size cfg rest o' bm _ (by have := hd.size; omega) hc.fits)
    (fun h => by have : o.size = 0 := by simpa using h
                 cases o'; simp_all)

theorem step_tls (cfg : Cfg) (o : Client.MailOptions) (hc : CfgOn cfg o) (rest : List (Bytes × Bytes))
    (o' : MailOpts) (bm : Bool) (h0 : o'.requireTLS = false) :
    Server.mailParams cfg (tlsT o ++ rest) o' bm = Server.mailParams cfg rest { o' with requireTLS := o.requireTLS } bm :=
  opt_head (Server.mailParams cfg · · bm) _ _ _ _ _
    (fun h => by rw [mailParams_reqtls cfg rest o' bm hc.reqtls, h])
    (fun h => by cases o'; simp_all)

theorem step_utf8 (cfg : Cfg) (o : Client.MailOptions) (hc : CfgOn cfg o) (rest : List (Bytes × Bytes))
    (o' : MailOpts) (bm : Bool) (h0 : o'.utf8 = false) :
    Server.mailParams cfg (utf8T o ++ rest) o' bm = Server.mailParams cfg rest { o' with utf8 := o.utf8 } bm :=
  opt_head (Server.mailParams cfg · · bm) _ _ _ _ _
    (fun h => by rw [mailParams_utf8 cfg rest o' bm hc.utf8, h])
    (fun h => by cases o'; simp_all)

theorem step_ret (cfg : Cfg) (o : Client.MailOptions) (hc : CfgOn cfg o) (hd : MailDomain o) (rest : List (Bytes × Bytes))
    (o' : MailOpts) (bm : Bool) (h0 : o'.ret = []) :
    Server.mailParams cfg (retT o ++ rest) o' bm = Server.mailParams cfg rest { o' with ret := o.ret } bm :=
  opt_head (Server.mailParams cfg · · bm) _ _ _ _ _
    (fun h => mailParams_ret cfg rest o' bm _ (hd.ret.resolve_left h) hc.dsn)
    (fun h => by have : o.ret = [] := Decidable.not_not.mp h
                 cases o'; simp_all)

theorem step_envid (cfg : Cfg) (o : Client.MailOptions) (hc : CfgOn cfg o) (hd : MailDomain o) (rest : List (Bytes × Bytes))
    (o' : MailOpts) (bm : Bool) (h0 : o'.envid = []) :
    Server.mailParams cfg (envidT o ++ rest) o' bm = Server.mailParams cfg rest { o' with envid := o.envid } bm :=
  opt_head (Server.mailParams cfg · · bm) _ _ _ _ _
    (fun h => mailParams_envid cfg rest o' bm _ hc.dsn h hd.envid)
    (fun h => by have : o.envid = [] := Decidable.not_not.mp h
                 cases o'; simp_all)

theorem step_auth (cfg : Cfg) (o : Client.MailOptions) (hd : MailDomain o) (rest : List (Bytes × Bytes))
    (o' : MailOpts) (bm : Bool) (h0 : o'.auth = none) :
    Server.mailParams cfg (authT o ++ rest) o' bm = Server.mailParams cfg rest { o' with auth := o.auth } bm := by
  unfold authT
  cases hau : o.auth with
  | none => cases o'; simp_all
  | some a =>
    rcases hd.auth a hau with rfl | h
    · exact mailParams_auth_null ..
    · simp only [h.facts.1, Bool.false_eq_true, if_false]
      exact mailParams_auth cfg rest o' bm a h

/-- what the backend's `Mail` is handed for the client's options -/
def expected (o : Client.MailOptions) : MailOpts :=
  { body := if o.body.isEmpty then "8BITMIME".b else o.body, size := o.size.toNat, requireTLS := o.requireTLS,
    utf8 := o.utf8, ret := o.ret, envid := o.envid, auth := o.auth }

theorem server_mailToks (cfg : Cfg) (o : Client.MailOptions) (hc : CfgOn cfg o) (hd : MailDomain o) :
    Server.mailParams cfg (mailToks o) {} false =
      .ok (expected o, (if o.body.isEmpty then "8BITMIME".b else o.body) == "BINARYMIME".b) := by
  have hbv := bodyVal_sent hd.body
  -- a trailing `[]`, so that the last piece too stands in front of a list; put on here, because later the same rewrite has to
  -- look for instances of `authT o` in every list of a large goal, which is slow
  rw [← List.append_nil (mailToks o)]
  simp only [mailToks, bodyT, List.cons_append, List.nil_append, List.append_assoc]
  rw [mailParams_body cfg _ _ _ _ hbv hc.binmime, step_size cfg o hc hd _ _ _ rfl, step_tls cfg o hc _ _ _ rfl,
    step_utf8 cfg o hc _ _ _ rfl, step_ret cfg o hc hd _ _ _ rfl, step_envid cfg o hc hd _ _ _ rfl,
    step_auth cfg o hd [] _ _ rfl, mailParams_nil]
  simp only [expected]
  generalize ((if o.body.isEmpty = true then "8BITMIME".b else o.body) == "BINARYMIME".b) = c
  cases c <;> rfl

theorem valByte_iff (b : Byte) : valByte b = true ↔ 0x21 ≤ b.toNat ∧ b.toNat ≤ 0x7E ∧ b.toNat ≠ 61 := by
  simp only [valByte, Bool.and_eq_true, graphic_iff, bne_iff_ne, ne_eq, and_assoc, ← UInt8.toNat_inj]
  rfl

theorem encodeXtext_val (v : Bytes) : (encodeXtext v).all valByte = true :=
  List.all_eq_true.mpr <| OneLine.encodeXtext_mem (by decide +kernel) (by decide) (fun r h => by
    simp only [xtextSafe, Bool.and_eq_true, decide_eq_true_eq, bne_iff_ne] at h
    rw [valByte_iff, UInt8.toNat_ofNat', Nat.mod_eq_of_lt (Nat.lt_of_le_of_lt h.1.1.2 (by decide))]
    exact ⟨h.1.1.1, h.1.1.2, h.2⟩) v

theorem natToDec_val (n : Nat) : (natToDec n).all valByte = true :=
  List.all_eq_true.mpr fun b hb => by
    have hd := List.all_eq_true.mp (natToDec_digits n) b hb
    simp only [isDigit, Bool.and_eq_true, decide_eq_true_eq] at hd
    rw [valByte_iff]
    omega

theorem forall_mem_opt {τ} {c : Prop} [Decidable c] {tok : τ} {P : τ → Prop} (h : c → P tok) :
    ∀ p ∈ (if c then [tok] else []), P p := by
  split
  · exact List.forall_mem_singleton.mpr (h ‹c›)
  · exact List.forall_mem_nil _

theorem paramOk_lit (k : String) (v : Bytes) (hv : v.all valByte = true)
    (hk : k.b ≠ [] ∧ k.b.all keyByte = true := by decide +kernel) : ParamOk (k.b, v) := ⟨hk.1, hk.2, hv⟩

theorem mailToks_ok (o : Client.MailOptions) (hd : MailDomain o) : ∀ p ∈ mailToks o, ParamOk p := by
  simp only [mailToks, List.forall_mem_append]
  refine ⟨⟨⟨⟨⟨⟨?_, ?_⟩, ?_⟩, ?_⟩, ?_⟩, ?_⟩, ?_⟩
  · simp only [bodyT, List.forall_mem_singleton]
    refine paramOk_lit "BODY" _ ?_
    rcases bodyVal_sent hd.body with h | h | h <;> rw [h] <;> decide +kernel
  · exact forall_mem_opt fun _ => paramOk_lit "SIZE" _ (natToDec_val _)
  · exact forall_mem_opt fun _ => paramOk_lit "REQUIRETLS" _ rfl
  · exact forall_mem_opt fun _ => paramOk_lit "SMTPUTF8" _ rfl
  · refine forall_mem_opt fun h => paramOk_lit "RET" _ ?_
    rcases hd.ret.resolve_left h with h | h <;> rw [h] <;> decide +kernel
  · exact forall_mem_opt fun _ => paramOk_lit "ENVID" _ (encodeXtext_val _)
  · unfold authT
    cases hau : o.auth with
    | none => simp
    | some a =>
      simp only [List.forall_mem_singleton]
      refine paramOk_lit "AUTH" _ ?_
      rcases hd.auth a hau with rfl | h
      · decide +kernel
      · rw [h.facts.1]; exact encodeXtext_val a

theorem sub_if {α} (c : Prop) [Decidable c] (x : α) : (if c then [x] else []).Sublist [x] := by
  split
  · exact List.Sublist.refl _
  · exact List.nil_sublist _

theorem mailToks_keys (o : Client.MailOptions) : ((mailToks o).map (·.1)).Nodup := by
  have hsub : ((mailToks o).map (·.1)).Sublist
      (["BODY".b] ++ ["SIZE".b] ++ ["REQUIRETLS".b] ++ ["SMTPUTF8".b] ++ ["RET".b] ++ ["ENVID".b] ++ ["AUTH".b]) := by
    simp only [mailToks, sizeT, tlsT, utf8T, retT, envidT, List.map_append, apply_ite (List.map fun p : Bytes × Bytes => p.1),
      List.map_cons, List.map_nil]
    refine List.Sublist.append (List.Sublist.append (List.Sublist.append (List.Sublist.append (List.Sublist.append
      (List.Sublist.append (List.Sublist.refl _) (sub_if ..)) (sub_if ..)) (sub_if ..)) (sub_if ..)) (sub_if ..)) ?_
    unfold authT; split <;> simp
  exact List.Sublist.nodup hsub (by decide +kernel)

theorem rcptParams_notify (cfg : Cfg) (rest : List (Bytes × Bytes)) (o : RcptOpts) (vals : List Bytes)
    (hd : cfg.dsn = true) (hok : Client.notifyOk vals = true) :
    Server.rcptParams cfg (("NOTIFY".b, List.intercalate [44] vals) :: rest) o =
      Server.rcptParams cfg rest { o with notify := vals } := by
  -- the four keywords are in upper case and have no comma in them
  obtain ⟨hne, hw⟩ := Client.notifyOk_words (P := fun v => toUpper v = v ∧ ∀ b ∈ v, b ≠ 44) hok (by decide +kernel)
  have hvalid : notifyValid vals = true := hok
  rw [rcptParams_NOTIFY, hd, splitByte_intercalate 44 vals hne fun v hv => (hw v hv).2,
    map_eq_self vals toUpper fun v hv => (hw v hv).1, hvalid]
  rfl

theorem rcptParams_orcpt (cfg : Cfg) (rest : List (Bytes × Bytes)) (o : RcptOpts) (a : Bytes)
    (hd : cfg.dsn = true) (hne : a ≠ []) (hp : isPrintableASCII a = true) :
    Server.rcptParams cfg (("ORCPT".b, "RFC822;".b ++ encodeXtext a) :: rest) o =
      Server.rcptParams cfg rest { o with orcptType := "RFC822".b, orcpt := a } := by
  have hasc := printable_lt128 a hp
  have hl : "RFC822;".b = "RFC822".b ++ [59] ∧ (∀ b ∈ "RFC822".b, b ≠ 59) ∧ "RFC822".b.isEmpty = false ∧
      toUpper "RFC822".b = "RFC822".b := by decide +kernel
  rw [rcptParams_ORCPT, hd, decodeTypedAddress, hl.1, List.append_assoc, List.singleton_append, cutByte_first _ _ 59 hl.2.1]
  simp [hl.2.2, encodeXtext_ne_nil a hne hasc, xtext_roundtrip a hasc, hp, hne]

def notifyT (o : Client.RcptOptions) : List (Bytes × Bytes) :=
  if o.notify ≠ [] then [("NOTIFY".b, List.intercalate [44] o.notify)] else []
def orcptT (o : Client.RcptOptions) : List (Bytes × Bytes) :=
  if o.orcpt ≠ [] then [("ORCPT".b, "RFC822;".b ++ encodeXtext o.orcpt)] else []
def rcptToks (o : Client.RcptOptions) : List (Bytes × Bytes) := notifyT o ++ orcptT o

/-- RCPT options of the printable-ASCII domain: a valid NOTIFY set (or none), an rfc822 original recipient of
    printable ASCII (or none), no RRVS time -/
structure RcptDomain (o : Client.RcptOptions) : Prop where
  notify : o.notify = [] ∨ Client.notifyOk o.notify = true
  orcpt : o.orcpt = [] ∨ (o.orcptType = "RFC822".b ∧ isPrintableASCII o.orcpt = true)
  rrvs : o.rrvs = none

theorem intercalate_val (vals : List Bytes) (hne : vals ≠ []) (h : ∀ v ∈ vals, v.all valByte = true ∧ v ≠ []) :
    (List.intercalate [44] vals).all valByte = true ∧ List.intercalate [44] vals ≠ [] := by
  refine ⟨List.all_eq_true.mpr (forall_mem_intercalate (by decide) fun v hv => List.all_eq_true.mp (h v hv).1), ?_⟩
  obtain ⟨first, tl, rfl⟩ := List.exists_cons_of_ne_nil hne
  rw [intercalate_cons]
  exact List.append_ne_nil_of_left_ne_nil (h first List.mem_cons_self).2 _

theorem notify_val {vals : List Bytes} (hok : Client.notifyOk vals = true) :
    (List.intercalate [44] vals).all valByte = true ∧ List.intercalate [44] vals ≠ [] :=
  have ⟨hne, hw⟩ := Client.notifyOk_words (P := fun v => v.all valByte = true ∧ v ≠ []) hok (by decide +kernel)
  intercalate_val vals hne hw

theorem client_notify (o : Client.RcptOptions) (hn : o.notify = [] ∨ Client.notifyOk o.notify = true) :
    Client.notifyParam o = some (spaced ((notifyT o).map renderParam)) := by
  unfold Client.notifyParam notifyT
  by_cases h : o.notify = []
  · rw [h]; rfl
  · have hok := hn.resolve_left h
    rw [if_neg (mt List.isEmpty_iff.mp h), if_pos h, hok]
    exact congrArg some (spaced_kv _ _ _ (notify_val hok).2)

theorem client_orcpt (ext : List (Bytes × Bytes)) (o : Client.RcptOptions)
    (ho : o.orcpt = [] ∨ (o.orcptType = "RFC822".b ∧ isPrintableASCII o.orcpt = true)) :
    Client.orcptParam ext o = some (spaced ((orcptT o).map renderParam)) := by
  unfold Client.orcptParam orcptT
  by_cases h : o.orcpt = []
  · rw [h]; rfl
  · obtain ⟨hty, hp⟩ := ho.resolve_left h
    have hl : " ORCPT=RFC822;".b = " ORCPT=".b ++ "RFC822;".b ∧ "RFC822;".b ≠ [] ∧ ("RFC822".b == "RFC822".b) = true := by
      decide +kernel
    rw [if_neg (mt List.isEmpty_iff.mp h), if_pos h, hty, hp, if_pos hl.2.2, Bool.not_true, if_neg Bool.false_ne_true, hl.1, List.append_assoc]
    exact congrArg some (spaced_kv _ _ _ (List.append_ne_nil_of_left_ne_nil hl.2.1 _))

theorem client_rcptParams (ext : List (Bytes × Bytes)) (o : Client.RcptOptions) (hdsn : Client.hasExt ext "DSN" = true)
    (hd : RcptDomain o) : Client.rcptParams ext o = some (spaced ((rcptToks o).map renderParam)) := by
  unfold Client.rcptParams Client.rrvsParam
  simp only [hdsn, if_true, client_notify o hd.notify, client_orcpt ext o hd.orcpt, hd.rrvs, List.append_nil]
  simp only [rcptToks, List.map_append, spaced_append]

theorem rcptToks_ok (o : Client.RcptOptions) (hd : RcptDomain o) : ∀ p ∈ rcptToks o, ParamOk p := by
  simp only [rcptToks, List.forall_mem_append]
  constructor
  · exact forall_mem_opt fun h => paramOk_lit "NOTIFY" _ (notify_val (hd.notify.resolve_left h)).1
  · refine forall_mem_opt fun h => paramOk_lit "ORCPT" _ ?_
    rw [List.all_append, encodeXtext_val]
    decide +kernel

theorem rcptToks_keys (o : Client.RcptOptions) : ((rcptToks o).map (·.1)).Nodup := by
  have hsub : ((rcptToks o).map (·.1)).Sublist (["NOTIFY".b] ++ ["ORCPT".b]) := by
    simp only [rcptToks, notifyT, orcptT, List.map_append, apply_ite (List.map fun p : Bytes × Bytes => p.1),
      List.map_cons, List.map_nil]
    exact List.Sublist.append (sub_if ..) (sub_if ..)
  exact List.Sublist.nodup hsub (by decide +kernel)

def expectedRcpt (o : Client.RcptOptions) : RcptOpts :=
  { notify := o.notify, orcptType := if o.orcpt.isEmpty then [] else "RFC822".b, orcpt := o.orcpt, rrvs := none }

theorem step_notify (cfg : Cfg) (o : Client.RcptOptions) (hdsn : cfg.dsn = true) (hd : RcptDomain o)
    (rest : List (Bytes × Bytes)) (o' : RcptOpts) (h0 : o'.notify = []) :
    Server.rcptParams cfg (notifyT o ++ rest) o' = Server.rcptParams cfg rest { o' with notify := o.notify } :=
  opt_head (Server.rcptParams cfg) _ _ _ _ _
    (fun h => rcptParams_notify cfg rest o' o.notify hdsn (hd.notify.resolve_left h))
    (fun h => by have : o.notify = [] := Decidable.not_not.mp h
                 cases o'; simp_all)

theorem step_orcpt (cfg : Cfg) (o : Client.RcptOptions) (hdsn : cfg.dsn = true) (hd : RcptDomain o)
    (rest : List (Bytes × Bytes)) (o' : RcptOpts) (h0 : o'.orcpt = []) (h1 : o'.orcptType = []) :
    Server.rcptParams cfg (orcptT o ++ rest) o' =
      Server.rcptParams cfg rest { o' with orcptType := if o.orcpt.isEmpty then [] else "RFC822".b, orcpt := o.orcpt } :=
  opt_head (Server.rcptParams cfg) _ _ _ _ _
    (fun h => by rw [rcptParams_orcpt cfg rest o' o.orcpt hdsn h (hd.orcpt.resolve_left h).2,
                   List.isEmpty_eq_false_iff.mpr h]; rfl)
    (fun h => by have : o.orcpt = [] := Decidable.not_not.mp h
                 cases o'; simp_all)

theorem server_rcptToks (cfg : Cfg) (o : Client.RcptOptions) (hdsn : cfg.dsn = true) (hd : RcptDomain o) :
    Server.rcptParams cfg (rcptToks o) {} = .ok (expectedRcpt o) := by
  rw [← List.append_nil (rcptToks o), rcptToks, List.append_assoc, step_notify cfg o hdsn hd _ _ rfl,
    step_orcpt cfg o hdsn hd [] _ rfl rfl, rcptParams_nil]
  rfl

end SmtpV.Props.C14
