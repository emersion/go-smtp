import SmtpV.Proofs.DataReader
/-!
One `Read` call.  `read` is unfolded once, into three equations (`read_eof`, `read_spent`, `read_loop`); `read_spec` says what a
call does on arbitrary input, and the contracts on a source whose greedy run reaches the end marker are read off it.
-/
namespace SmtpV.DataReader
open SmtpV SmtpV.Spec SmtpV.Server

def room (r : DR) (k : Nat) : Nat := if r.limited then min k r.n else k

theorem read_eof (r : DR) (inp : Bytes) (k : Nat) (h : r.state = .eof) : read r inp k = (r, [], inp, .eof) := by
  obtain ⟨s, l, n⟩ := r
  subst h
  simp [read, readLoop_eof]

theorem read_spent (r : DR) (inp : Bytes) (k : Nat) (hl : r.limited = true) (hn : r.n = 0) (hs : r.state ≠ .eof) :
    read r inp k = if r.state = .bol ∧ Spec.marker <+: inp then ({ r with state := .eof }, [], inp.drop 3, .eof)
      else (r, [], inp, .tooLarge) := by
  have : Spec.marker <+: inp ↔ inp.take 3 = DataReader.marker := by
    rw [List.prefix_iff_eq_take]; exact eq_comm
  have h0 : (r.limited && r.n == 0 && r.state != .eof) = true := by rw [hl, hn, bne_iff_ne.mpr hs]; rfl
  unfold read
  rw [if_pos h0]
  simp only [Bool.and_eq_true, beq_iff_eq, this]

theorem read_loop (r : DR) (inp : Bytes) (k : Nat) (h : r.limited = true → r.n ≠ 0) {s' : St} {out rest : Bytes}
    (hrl : readLoop r.state inp (room r k) = (s', out, rest)) :
    read r inp k = ({ r with state := s', n := if r.limited then r.n - out.length else r.n }, out, rest,
      if s' = .eof then .eof else if out.length < room r k then .ueof else .more) := by
  have : (r.limited && r.n == 0) = false := by
    cases hl : r.limited <;> simp [h, hl]
  unfold room at hrl
  simp only [read, this, room, hrl, Bool.false_and, Bool.false_eq_true, if_false, beq_iff_eq]
  rfl

theorem room_le (r : DR) (k : Nat) : room r k ≤ k ∧ (r.limited = true → room r k ≤ r.n) := by
  by_cases hl : r.limited = true
  · rw [room, if_pos hl]; exact ⟨Nat.min_le_left _ _, fun _ => Nat.min_le_right _ _⟩
  · rw [room, if_neg hl]; exact ⟨Nat.le_refl _, fun h => absurd h hl⟩

/-- `x` is a parameter so that the facts survive naming the components of `read r inp k`, as functional induction over
    `readSched` does -/
structure ReadFacts (r : DR) (inp : Bytes) (k : Nat) (x : DR × Bytes × Bytes × Res) : Prop where
  run : RunD r.state inp x.1.state x.2.2.1 x.2.1
  limited : x.1.limited = r.limited
  budget : r.limited = true → x.2.1.length + x.1.n = r.n
  more : x.2.2.2 = .more → x.2.1.length = room r k ∧ (0 < k → 0 < x.2.1.length) ∧
    (Boundary r.state → Boundary x.1.state)
  eof : x.2.2.2 = .eof → x.1.state = .eof
  ueof : x.2.2.2 = .ueof → x.1.state ≠ .eof ∧ x.2.2.1 = []
  tooLarge : x.2.2.2 = .tooLarge → x.1 = r ∧ x.2.2.1 = inp ∧ r.limited = true ∧ r.n = 0 ∧
    ¬ (r.state = .bol ∧ Spec.marker <+: inp)

theorem read_spec (r : DR) (inp : Bytes) (k : Nat) : ReadFacts r inp k (read r inp k) := by
  by_cases hs : r.state = .eof
  · rw [read_eof r inp k hs]
    exact ⟨RunD.rfl' _ _, rfl, fun _ => by simp, nofun, fun _ => hs, nofun, nofun⟩
  by_cases h0 : r.limited = true ∧ r.n = 0
  · rw [read_spent r inp k h0.1 h0.2 hs]
    split
    · rename_i hm
      obtain ⟨hb, t, rfl⟩ := hm
      exact ⟨hb ▸ runD_marker t, rfl, fun _ => by simp [h0.2], nofun, fun _ => rfl, nofun, nofun⟩
    · rename_i hm
      exact ⟨RunD.rfl' _ _, rfl, fun _ => by simp, nofun, nofun, nofun, fun _ => ⟨rfl, rfl, h0.1, h0.2, hm⟩⟩
  · rcases hrl : readLoop r.state inp (room r k) with ⟨s', out, rest⟩
    rw [read_loop r inp k (fun hl hn => h0 ⟨hl, hn⟩) hrl]
    have hlen := hrl ▸ readLoop_len r.state inp (room r k)
    have hrun : RunD r.state inp s' rest out := by
      have := readLoop_append r.state inp (room r k) []
      rwa [hrl, List.append_nil, List.append_nil] at this
    have hbud : r.limited = true → out.length + (if r.limited = true then r.n - out.length else r.n) = r.n := fun hl => by
      rw [if_pos hl]; exact Nat.add_sub_cancel' (Nat.le_trans hlen ((room_le r k).2 hl))
    by_cases he : s' = .eof
    · rw [if_pos he]
      exact ⟨hrun, rfl, hbud, nofun, fun _ => he, nofun, nofun⟩
    rw [if_neg he]
    by_cases hlt : out.length < room r k
    · rw [if_pos hlt]
      exact ⟨hrun, rfl, hbud, nofun, nofun,
        fun _ => ⟨he, ((hrl ▸ readLoop_stop r.state inp (room r k)) hlt).resolve_left he⟩, nofun⟩
    · rw [if_neg hlt]
      have hfull : out.length = room r k := Nat.le_antisymm hlen (Nat.le_of_not_lt hlt)
      refine ⟨hrun, rfl, hbud, fun _ => ⟨hfull, fun hk => ?_,
        fun hB => (hrl ▸ readLoop_boundary r.state inp (room r k)) (.inl hB) hfull⟩, nofun, nofun, nofun⟩
      rw [hfull]
      unfold room; split
      · rename_i hl; exact Nat.lt_min.mpr ⟨hk, Nat.pos_of_ne_zero fun hn => h0 ⟨hl, hn⟩⟩
      · exact hk

theorem read_budget (r : DR) (inp : Bytes) (k : Nat) (hl : r.limited = true) :
    (read r inp k).1.limited = true ∧ (read r inp k).2.1.length + (read r inp k).1.n = r.n :=
  ⟨(read_spec r inp k).limited.trans hl, (read_spec r inp k).budget hl⟩

theorem read_more_pos (r : DR) (inp : Bytes) (k : Nat) (hk : 0 < k)
    (h : (read r inp k).2.2.2 = .more) : 0 < (read r inp k).2.1.length :=
  ((read_spec r inp k).more h).2.1 hk

theorem not_ueof {s : St} {o rest0 : Bytes} (hs : s ≠ .eof) (h : run s [] = (.eof, o, rest0)) : False := by
  rw [run_nil] at h; exact hs (congrArg Prod.fst h)

/-- Contract of one `Read` while the message fits the budget (or no limit is set). -/
theorem read_ok (r : DR) (inp : Bytes) (k : Nat) (o rest0 : Bytes)
    (hE : run r.state inp = (.eof, o, rest0)) (hB : Boundary r.state)
    (hfit : r.limited = true → o.length ≤ r.n) :
    ∃ o', o = (read r inp k).2.1 ++ o' ∧
      run (read r inp k).1.state (read r inp k).2.2.1 = (.eof, o', rest0) ∧
      (read r inp k).1.limited = r.limited ∧
      ((read r inp k).1.limited = true → o'.length ≤ (read r inp k).1.n) ∧
      (((read r inp k).2.2.2 = .more ∧ Boundary (read r inp k).1.state ∧
          (read r inp k).2.1.length = (if r.limited then min k r.n else k)) ∨
       ((read r inp k).2.2.2 = .eof ∧ o' = [] ∧ (read r inp k).2.2.1 = rest0)) := by
  have F := read_spec r inp k
  obtain ⟨o', ho, hrun⟩ := F.run.of_eof hE
  have hfit' : (read r inp k).1.limited = true → o'.length ≤ (read r inp k).1.n := fun hl =>
    have hl := F.limited.symm.trans hl
    Nat.le_of_add_le_add_left (by rw [← List.length_append, ← ho, F.budget hl]; exact hfit hl)
  refine ⟨o', ho, hrun, F.limited, hfit', ?_⟩
  cases hres : (read r inp k).2.2.2 with
  | more => exact .inl ⟨rfl, (F.more hres).2.2 hB, (F.more hres).1⟩
  | eof =>
    rw [F.eof hres, run_eof] at hrun
    simp only [Prod.mk.injEq, true_and] at hrun
    exact .inr ⟨rfl, hrun.1.symm, hrun.2⟩
  | ueof => rw [(F.ueof hres).2] at hrun; exact (not_ueof (F.ueof hres).1 hrun).elim
  | tooLarge =>
    obtain ⟨e1, e3, hl, hn, hm⟩ := F.tooLarge hres
    have : o' = [] := List.eq_nil_of_length_eq_zero (by
      have := hfit' (by rw [e1]; exact hl); rw [e1, hn] at this; exact Nat.le_zero.mp this)
    rw [e1, e3, this] at hrun
    exact absurd ((run_boundary_nil _ _ _ hB hrun).imp_right fun e => ⟨rest0, e.symm⟩) hm

theorem read_over (r : DR) (inp : Bytes) (k : Nat) (o rest0 : Bytes)
    (hE : run r.state inp = (.eof, o, rest0)) (hB : Boundary r.state)
    (hl : r.limited = true) (hover : r.n < o.length) :
    ((read r inp k).2.2.2 = .tooLarge) ∨
    ((read r inp k).2.2.2 = .more ∧ ∃ o', run (read r inp k).1.state (read r inp k).2.2.1 = (.eof, o', rest0) ∧
        Boundary (read r inp k).1.state ∧ (read r inp k).1.limited = true ∧ (read r inp k).1.n < o'.length) := by
  have F := read_spec r inp k
  obtain ⟨o', ho, hrun⟩ := F.run.of_eof hE
  have hlen : o.length = (read r inp k).2.1.length + o'.length := by rw [ho, List.length_append]
  have := F.budget hl
  cases hres : (read r inp k).2.2.2 with
  | more => exact .inr ⟨rfl, o', hrun, (F.more hres).2.2 hB, F.limited.trans hl,
      Nat.lt_of_add_lt_add_left (by rw [this, ← hlen]; exact hover)⟩
  | eof =>
    rw [F.eof hres, run_eof] at hrun
    simp only [Prod.mk.injEq, true_and] at hrun
    exact absurd hover (Nat.not_lt.mpr (by rw [hlen, ← hrun.1, ← this]; exact Nat.le_add_right _ _))
  | ueof => rw [(F.ueof hres).2] at hrun; exact (not_ueof (F.ueof hres).1 hrun).elim
  | tooLarge => exact .inl rfl

end SmtpV.DataReader
