import SmtpV.Proofs.ServerInv
import SmtpV.Proofs.ServerWalk
/-!
Every handler, the command loop and the whole connection preserve `Good`.  A handler is entered through its case lemma: a
refusal is a reply; the part that does the work gets a lemma of its own, with the guards the monitor asks for as hypotheses.
`Good` is not an instance of `Closed` (Proofs/ServerWalk.lean): a `Quiet` step may log a callback, and whether the monitor
accepts that depends on the connection state, which the frame does not look at.
-/
namespace SmtpV.Server
open SmtpV SmtpV.Spec SmtpV.Spec.Order SmtpV.Reply

@[simp] theorem setBinarymime_abs (s : S) (b : Bool) : abs (setBinarymime s b).c = abs s.c := rfl

theorem setBinarymime_good {a0 : A} {s : S} (h : Good a0 s) (b : Bool) : Good a0 (setBinarymime s b) :=
  h.fields _ _ _ _ _

theorem Called.good {a0 : A} {r : BRes} {s : S} {c' : Conn} {p : S × Bool} (h : Called r s c' p)
    (hno : r ≠ .ok → Good a0 s) (hok : r = .ok → Good a0 { s with c := c' }) : Good a0 p.1 := by
  cases h with
  | ok bs hr => exact write_good (hok hr) _
  | panic hr => exact hno (by rw [hr]; nofun)
  | err bs hr => exact write_good (hno hr) _

theorem mailCall_good {a0 : A} {s : S} (h : Good a0 s) {id : Nat} (hid : s.c.session = some id) (hb : s.c.bdat = none)
    (frm : Bytes) (opts : MailOpts) : Good a0 (mailCall s id frm opts).1 := by
  have hc := mailCall_called s id frm opts
  have hp := (popMail_popped s).same
  generalize popMail s = p at hc hp
  have h1 := hp.neutral.good h
  rewrite [← hp.c] at hid hb
  refine hc.good
    (fun hr => h1.emit _ (step_ok.2 ⟨nofun, hid, by simp [abs, hb], by simp [beq_false_of_ne hr]⟩) h1.shape)
    (fun hr => h1.emit (.mail id frm opts _) (step_ok.2 ⟨nofun, hid, by simp [abs, hb], by simp [abs, hid, hr]⟩) ?_)
  exact ⟨h1.shape.closedSess, fun _ _ => by simp [hid], fun hh => by simp [hb] at hh, fun _ hn => by simp [hid] at hn⟩

theorem handleMail_good {a0 : A} {s : S} (h : Good a0 s) (arg : Bytes) : Good a0 (handleMail s arg).1 := by
  rcases handleMail_cases s arg with ⟨b, _, _, _, _, _, _, he⟩ | ⟨_, _, _, _, _, he⟩ | ⟨id, _, _, bm, _, _, hb, hid, he⟩ <;> rw [he]
  · cases b
    · exact write_good h _
    · exact write_good (setBinarymime_good h false) _
  · exact setBinarymime_good h _
  · exact mailCall_good (setBinarymime_good h bm) hid hb _ _

theorem rcptCall_good {a0 : A} {s : S} (h : Good a0 s) {id : Nat} (hid : s.c.session = some id)
    (hfrom : s.c.fromReceived = true) (hb : s.c.bdat = none)
    (hmax : ¬ (s.cfg.maxRcpt > 0 ∧ s.c.recipients.length ≥ s.cfg.maxRcpt)) (rcpt : Bytes) (opts : RcptOpts) :
    Good a0 (Props.C14.rcptCall s id rcpt opts).1 := by
  have hc := rcptCall_called s id rcpt opts
  have hp := (popRcpt_popped s).same
  generalize popRcpt s = p at hc hp
  have h1 := hp.neutral.good h
  rewrite [← hp.c] at hid hfrom hb hmax
  rewrite [← hp.cfg] at hmax
  have hg : (abs p.2.c).mailOk = true ∧ (abs p.2.c).transfer = false ∧
      (p.2.cfg.maxRcpt > 0 → (abs p.2.c).nrcpt < p.2.cfg.maxRcpt) := by
    simpa [abs, hid, hb, hfrom] using hmax
  refine hc.good
    (fun hr => h1.emit _ (step_ok.2 ⟨nofun, hid, hg.1, hg.2.1, hg.2.2, by simp [beq_false_of_ne hr]⟩) h1.shape)
    (fun hr => h1.emit (.rcpt id rcpt opts _) (step_ok.2 ⟨nofun, hid, hg.1, hg.2.1, hg.2.2, by simp [abs, hid, hr]⟩) ?_)
  exact ⟨h1.shape.closedSess, h1.shape.fromSess, h1.shape.bdatFrom, fun _ hn => by simp [hid] at hn⟩

theorem handleRcpt_good {a0 : A} {s : S} (h : Good a0 s) (arg : Bytes) : Good a0 (handleRcpt s arg).1 := by
  rcases handleRcpt_cases s arg with ⟨_, _, _, _, _, _, he⟩ | ⟨_, _, _, he⟩ | ⟨_, _, _, _, he⟩ | ⟨id, _, _, _, hfrom, hb, hmax, hid, he⟩ <;> rw [he]
  · exact write_good h _
  · exact write_good h _
  · exact h
  · exact rcptCall_good h hid hfrom hb hmax _ _

theorem setHelo_good {a0 : A} {s : S} (h : Good a0 s) (d : Bytes) : Good a0 (setHelo s d) := h.fields _ _ _ _ _

theorem parseHello_ne (arg d : Bytes) (h : Parse.parseHelloArgument arg = some d) : d ≠ [] := by
  unfold Parse.parseHelloArgument at h
  simp only [Option.ite_none_left_eq_some, Option.some.injEq] at h
  rw [← h.2]
  simpa using h.1

/-- by `Shape` nothing of an envelope is left on an open connection without a session -/
theorem newSession_good {a0 : A} {s : S} (h : Good a0 s) (hcl : s.c.closed = false) (hs : s.c.session = none)
    (d : Bytes) (hd : d ≠ []) : Good a0 (newSession s d).1 := by
  unfold newSession
  dsimp only
  have hp := (popNs_popped s).same
  have h1 := hp.neutral.good h
  rewrite [← hp.c] at hcl hs
  obtain ⟨hfr, hbd, hrc, hda⟩ := h1.shape.no_envelope hcl hs
  refine h1.emit (.ns _ d _ _) (step_ok.2 ⟨nofun, hcl, hs, rfl, rfl, hd, by simp [abs, hfr, hbd, hrc, hda]⟩) ?_
  exact ⟨fun hc => by simp [hcl] at hc, fun _ hf => by simp [hfr] at hf, fun hb => by simp [hbd] at hb, fun _ _ => ⟨hrc, hda⟩⟩

theorem handleGreet_good {a0 : A} {s : S} (h : Good a0 s) (hcl : s.c.closed = false) (e : Bool) (arg : Bytes) :
    Good a0 (handleGreet s e arg).1 := by
  rcases handleGreet_cases s e arg with ⟨_, _, he⟩ | ⟨d, hd, ⟨_, he⟩ | ⟨hs, he⟩⟩ <;> rw [he]
  · exact write_good h _
  · exact (greetReply_wrote _ _ _).neutral.good (resetConn_good (setHelo_good h d))
  · have h2 := newSession_good (setHelo_good h d) hcl hs d (parseHello_ne arg d hd)
    split
    · exact (greetReply_wrote _ _ _).neutral.good h2
    · exact h2
    · exact write_good (setHelo_good h2 []) _

theorem sasl_good {a0 : A} {s : S} (h : Good a0 s) {id : Nat} (hid : s.c.session = some id) (hda : s.c.didAuth = false)
    (hal : authAllowed s = true) (resp : Option Bytes) (ch : Bytes) (done : Bool) (r : BRes) :
    ((done && r == BRes.ok) = false → Good a0 (emit s (.sasl resp ch done r))) ∧
    ((done && r == BRes.ok) = true → Good a0 { emit s (.sasl resp ch done r) with c := { s.c with didAuth := true } }) := by
  have hg : (abs s.c).live ≠ none ∧ ((abs s.c).tls = true ∨ s.cfg.insecureAuth = true) ∧ (abs s.c).authed = false := by
    simpa [abs, hid, hda, authAllowed] using hal
  refine ⟨fun hd => h.emit _ (step_ok.2 ⟨nofun, hg.1, hg.2.1, hg.2.2, by rw [hd, Bool.or_false]⟩) h.shape,
    fun hd => h.emit (.sasl resp ch done r) (step_ok.2 ⟨nofun, hg.1, hg.2.1, hg.2.2, by simp [hd, abs, hid]⟩) ?_⟩
  exact ⟨h.shape.closedSess, h.shape.fromSess, h.shape.bdatFrom, fun _ hn => by simp [hid] at hn⟩

/-- the guards of `handleAuth` hold in every round: a round that goes on has only popped the script, logged a step that was not
    the last, replied and read a line -/
theorem saslLoop_good {a0 : A} {id : Nat} (fuel : Nat) : ∀ {s : S}, Good a0 s → s.c.session = some id →
    s.c.didAuth = false → authAllowed s = true → ∀ (resp : Option Bytes), Good a0 (saslLoop fuel s resp).1 := by
  induction fuel with
  | zero => exact fun h _ _ _ _ => h
  | succ fuel ih =>
    intro s h hid hda hal resp
    obtain ⟨st, _, p, he, _, rfl, hc⟩ := saslLoop_cases fuel s resp
    rw [he]
    have hp := (popSasl_popped s).same
    have hal1 : authAllowed (popSasl s).2 = true := by rw [authAllowed, hp.c, hp.cfg]; exact hal
    rewrite [← hp.c] at hid hda
    have hev := sasl_good (hp.neutral.good h) hid hda hal1 resp st.challenge st.done st.res
    rcases hc with ⟨hres, rfl⟩ | ⟨hres, hdone, _, rfl⟩ | ⟨hres, _, rfl⟩ | ⟨_, hdone, bs, s4, _, hq, hc⟩
    · exact hev.1 (by rw [hres]; simp)
    · exact write_good (hev.2 (by rw [hres, hdone]; rfl)) _
    · exact write_good (hev.1 (by rw [beq_false_of_ne hres, Bool.and_false])) _
    · have hs4 := connReadLine_same hq
      have h4 := hs4.neutral.good (write_good (hev.1 (by rw [hdone, Bool.false_and])) bs)
      rcases hc with rfl | ⟨_, rfl⟩ | ⟨_, rfl⟩
      · exact h4
      · exact write_good h4 _
      · have hc4 : s4.c = (popSasl s).2.c := by rw [hs4.c, write_c, emit_c]
        have hcfg4 : s4.cfg = (popSasl s).2.cfg := by rw [hs4.cfg, write_cfg, emit_cfg]
        exact ih h4 (hc4 ▸ hid) (hc4 ▸ hda) (by rw [authAllowed, hc4, hcfg4]; exact hal1) _

theorem handleAuth_good {a0 : A} {s : S} (h : Good a0 s) (arg : Bytes) : Good a0 (handleAuth s arg).1 := by
  rcases handleAuth_cases s arg with ⟨_, he⟩ | ⟨_, _, he⟩ | ⟨id, mech, ir, _, hda, hal, hid, _, he⟩ <;> rw [he]
  · exact write_good h _
  · exact h
  · unfold authCall
    dsimp only
    have hp := (popAuth_popped s).same
    generalize popAuth s = p at hp ⊢
    have h1 := hp.neutral.good h
    have hal1 : authAllowed p.2 = true := by rw [authAllowed, hp.c, hp.cfg]; exact hal
    rewrite [← hp.c] at hid hda
    have h2 : ∀ r, Good a0 (emit p.2 (.authMech id mech r)) := fun r =>
      h1.emit _ (step_ok.2 ⟨nofun, hid, by simpa [abs, authAllowed] using hal1, by simp [abs, hda], rfl⟩) h1.shape
    split
    · exact saslLoop_good _ (h2 _) hid hda hal1 _
    · exact h2 _
    · exact write_good (h2 _) _

/-- the handshake has succeeded: the monitor waits for the Logout of the plaintext session, if there is one -/
theorem tlsUpgrade_good {a0 : A} {s : S} (h : Tr a0 s { abs s.c with tls := true, upgrading := s.c.session.isSome })
    (hcl : s.c.closed = false) : Good a0 (tlsUpgrade s) := by
  have hl := tr_logoutSess (s := switchWire s) (t := s.c.bdat.isSome) (u := true) h
  rw [show abs (logoutSess (switchWire s)).c = abs (forgetGreeting (logoutSess (switchWire s))).c by
    simp [forgetGreeting, abs, logoutSess_c]] at hl
  refine ⟨tr_resetConn ⟨_, hl⟩, ?_⟩
  rw [tlsUpgrade_c]
  exact ⟨fun hc => absurd hc (by simp [hcl]), nofun, nofun, fun _ _ => ⟨rfl, rfl⟩⟩

theorem handleStartTLS_good {a0 : A} {s : S} (h : Good a0 s) (hcl : s.c.closed = false) : Good a0 (handleStartTLS s) := by
  by_cases hr : s.c.tls = true ∨ s.cfg.tlsAvail = false
  · obtain ⟨_, he⟩ := handleStartTLS_refused s hr
    rw [he]; exact write_good h _
  have htls : s.c.tls = false := eq_false_of_ne_true fun ht => hr (.inl ht)
  have hav : s.cfg.tlsAvail = true := eq_true_of_ne_false fun ha => hr (.inr ha)
  obtain ⟨s1, hw, he⟩ := handleStartTLS_accepted s htls hav
  rw [he]
  have hn := hw.neutral.trans (popHs_popped _).same.neutral
  have h1 := hn.good h
  rewrite [← hn.c] at hcl htls
  rewrite [← hn.cfg] at hav
  split
  · exact tlsUpgrade_good (Tr.emit h1.tr (step_ok.2 ⟨nofun, hcl, htls, hav, by simp [abs]⟩)) hcl
  · exact write_good (h1.emit (.tlsStart false) (step_ok.2 ⟨nofun, hcl, htls, hav, by simp⟩) h1.shape) _

/-! DATA: between the start of the backend call and the reset that ends the transaction the monitor is in its transfer state
although `bdat` (chunked transfers only) is empty -/

structure GoodT (a0 : A) (s : S) : Prop where
  tr : Order.run s.cfg a0 s.evs.reverse = .ok { abs s.c with transfer := true }
  shape : Shape s.c
  sess : ∃ id, s.c.session = some id
  nobdat : s.c.bdat = none

theorem GoodT.closed {a0 : A} {s : S} (h : GoodT a0 s) : s.c.closed = false := by
  obtain ⟨id, hid⟩ := h.sess
  exact h.shape.open_of_session hid

theorem GoodT.trT {a0 : A} {s : S} (h : GoodT a0 s) : TrT a0 s := by
  obtain ⟨id, hid⟩ := h.sess
  exact ⟨true, by rw [hid]; exact h.tr⟩

theorem Neutral.goodT {a0 : A} {s s' : S} (hn : Neutral s s') (h : GoodT a0 s) : GoodT a0 s' :=
  ⟨hn.c ▸ hn.tr rfl rfl h.tr, hn.c ▸ h.shape, hn.c ▸ h.sess, hn.c ▸ h.nobdat⟩

theorem resetConn_of_goodT {a0 : A} {s : S} (h : GoodT a0 s) : Good a0 (resetConn s) :=
  ⟨tr_resetConn h.trT, shape_resetConn h.shape⟩

/-- `Close` during a synchronous transfer (a panic in an LMTP delivery) -/
theorem closeConn_of_goodT {a0 : A} {s : S} (h : GoodT a0 s) : Good a0 (closeConn s) :=
  ⟨tr_closeConn h.trT, shape_closeConn s⟩

theorem dataFinish_good {a0 : A} {s : S} (h : GoodT a0 s) (k : Nat) (r1 : DataReader.DR) (octets : Bytes)
    (e : RdEnd) (dec : DataDec) : Good a0 (dataFinish s k r1 octets e dec).1 := by
  obtain ⟨ret, x, he | ⟨hw, he⟩ | ⟨hw, he⟩⟩ := dataFinish_cases s k r1 octets e dec <;> rw [he]
  · exact resetConn_of_goodT ((neutral_setDrec _ _ _).goodT h)
  · exact resetConn_good (closeConn_of_goodT (((neutral_setDrec _ _ _).trans ((neutral_panicLog _).trans hw.neutral)).goodT h))
  · exact resetConn_of_goodT (((neutral_setDrec _ _ _).trans ((neutral_setW _ _).trans hw.neutral)).goodT h)

theorem beginData_same (s : S) (id : Nat) (dec : DataDec) : Same s (beginData s id dec).1 := ⟨rfl, rfl, rfl⟩

theorem dataSync_good {a0 : A} {s : S} (h : Good a0 s) {id : Nat} (hid : s.c.session = some id)
    (hfrom : s.c.fromReceived = true) (hr : s.c.recipients ≠ []) (hb : s.c.bdat = none) : Good a0 (dataSync s id).1 := by
  have hn := (popData_popped s).same.neutral.trans (beginData_same (popData s).2 id (popData s).1).neutral
  have h1 := hn.good h
  rw [← hn.c] at hid hfrom hr hb
  have hT : GoodT a0 (dataStart s id) :=
    ⟨Tr.emit h1.tr (step_ok.2 ⟨nofun, hid, by simp [abs, hfrom, hid], by simpa [abs, hid] using hr, by simp [abs, hb], rfl⟩),
      h1.shape, ⟨id, hid⟩, hb⟩
  have hT' := fun w => (neutral_setW _ w).goodT hT
  rw [dataSync_eq]
  exact dataFinish_good (hT' _) _ _ _ _ _

theorem handleData_good {a0 : A} {s : S} (h : Good a0 s) (arg : Bytes) : Good a0 (handleData s arg).1 := by
  cases ha : dataAccepted s arg
  · obtain ⟨_, _, _, he⟩ := handleData_refused s arg ha
    rw [he]; exact write_good h _
  · obtain ⟨s1, hw, he⟩ := handleData_accepted s arg ha
    rw [he]
    obtain ⟨_, hb, _, hf, hr⟩ := (dataAccepted_iff s arg).1 ha
    have h1 := hw.neutral.good h
    split
    · exact resetConn_good h1
    · rename_i id hid
      rw [← hw.c] at hb hf hr hid
      exact dataSync_good h1 hid hf hr hb

theorem neutral_discardChunkN (s : S) (sz : Option Nat) : Neutral s (discardChunkN s sz) :=
  let ⟨_, h⟩ := discardChunkN_eq s sz; h ▸ neutral_setW _ _

theorem neutral_copyChunk (fuel : Nat) (s : S) (k n cap : Nat) (hl : s.w.limit = 0) : Neutral s (copyChunk fuel s k n cap).1 :=
  copyChunk_rel (R := fun _ => Neutral) .refl .trans (fun _ h => h) (fun _ _ => Same.neutral ⟨rfl, rfl, rfl⟩) k
    (fun s bs => neutral_delivWrite s k bs) fuel s n cap hl

theorem startDelivery_good {a0 : A} {s : S} (h : Good a0 s) (hcl : s.c.closed = false)
    (hfrom : s.c.fromReceived = true) (hr : s.c.recipients ≠ []) (hb : s.c.bdat = none) (dec : DataDec) :
    Good a0 (startDelivery s dec).1 := by
  cases hs : s.c.session with
  | none => have := h.shape.fromSess hcl hfrom; rw [hs] at this; cases this
  | some id =>
    unfold startDelivery setBdat
    rw [hs]
    have hbd := beginData_same s id dec
    have h1 := hbd.neutral.good h
    rw [← hbd.c] at hs hcl hfrom hr hb
    refine h1.emit (.dataBegin id _)
      (step_ok.2 ⟨nofun, hs, by simp [abs, hfrom, hs], by simpa [abs, hs] using hr, by simp [abs, hb], by simp [abs, hs]⟩) ?_
    exact ⟨h1.shape.closedSess, h1.shape.fromSess, fun _ => ⟨hfrom, hcl⟩, h1.shape.idle⟩

theorem bdatBegin_good {a0 : A} {s : S} (h : Good a0 s) (hcl : s.c.closed = false)
    (hfrom : s.c.fromReceived = true) (hr : s.c.recipients ≠ []) : Good a0 (bdatBegin s).1 := by
  unfold bdatBegin
  split
  · exact h
  · rename_i hb
    dsimp only
    have hp := (popData_popped s).same
    rewrite [← hp.c] at hcl hfrom hr hb
    exact (Neutral.ite (neutral_delivFinish _ _ _) (.refl _)).good
      (startDelivery_good (hp.neutral.good h) hcl hfrom hr hb (popData s).1)

theorem bdatFail_good {a0 : A} {s : S} (h : Good a0 s) (k left : Nat) (last : Bool) (err : BRes) :
    Good a0 (bdatFail s k left last err).1 := by
  unfold bdatFail
  dsimp only
  have h1 := ((neutral_setW s (discardN (wireFuel s.w) s.w left)).trans (bdatFailReplies_wrote _ k last err).neutral).good h
  split
  · exact (neutral_setW _ _).good (resetConn_good (closeConn_good h1))
  · exact (neutral_setW _ _).good (resetConn_good h1)

theorem bdatFinal_good {a0 : A} {s : S} (h : Good a0 s) (k : Nat) : Good a0 (bdatFinal s k).1 := by
  -- closing the pipe: at most a panic is logged
  have h1 : Good a0 (if delivRunning s k then delivFinish s k .eof else s) :=
    (Neutral.ite (neutral_delivFinish s k .eof) (.refl s)).good h
  obtain ⟨x, hw, he | he⟩ := bdatFinal_cases s k <;> rw [he]
  · exact closeConn_good (hw.neutral.good h1)
  · exact resetConn_good (hw.neutral.good h1)

theorem bdatAfterCopy_good {a0 : A} {s : S} (h : Good a0 s) (k size left : Nat) (last : Bool) (ce : CopyEnd) :
    Good a0 (bdatAfterCopy s k size left last ce).1 := by
  have h1 : Good a0 (armLimit (addBytesReceived s size)) := (neutral_setW _ _).good (h.fields _ _ _ _ _)
  rcases bdatAfterCopy_cases s k size left last ce with ⟨_, he⟩ | ⟨_, _, he⟩ | ⟨_, _, he⟩ <;> rw [he]
  · exact bdatFail_good h _ _ _ _
  · exact write_good h1 _
  · exact bdatFinal_good h1 k

theorem bdatChunk_good {a0 : A} {s : S} (h : Good a0 s) (hcl : s.c.closed = false)
    (hfrom : s.c.fromReceived = true) (hr : s.c.recipients ≠ []) (size : Nat) (last : Bool) :
    Good a0 (bdatChunk s size last).1 := by
  unfold bdatChunk
  dsimp only
  obtain ⟨st, he⟩ := setBdatStatus_eq s
  rw [he]
  have h1 : Good a0 (bdatBegin { s with c := { s.c with bdatStatus := st } }).1 :=
    bdatBegin_good (h.fields _ _ _ st _) hcl hfrom hr
  exact bdatAfterCopy_good (((neutral_setW _ _).trans (neutral_copyChunk _ (setLimit _ 0) _ _ _ rfl)).good h1) _ _ _ _ _

theorem handleBdat_good {a0 : A} {s : S} (h : Good a0 s) (hcl : s.c.closed = false) (arg : Bytes) :
    Good a0 (handleBdat s arg).1 := by
  rcases handleBdat_cases s arg with ⟨_, _, _, _, he⟩ | ⟨_, he⟩ | ⟨_, _, hfrom, hr, _, he⟩ <;> rw [he]
  · exact (neutral_discardChunkN _ _).good (write_good h _)
  · exact resetConn_good ((neutral_discardChunkN _ _).good (write_good h _))
  · exact bdatChunk_good h hcl hfrom (by simpa using hr) _ _

/-- `defer recover()` in `Conn.handle`: 421, close, log -/
theorem recover_good {a0 : A} {p : S × Bool} (h : Good a0 p.1) : Good a0 (recoverPanic p) := by
  unfold recoverPanic
  split
  · exact (neutral_panicLog _).good (closeConn_good (write_good h _))
  · exact h

theorem dispatch_good {a0 : A} {s : S} (h : Good a0 s) (hcl : s.c.closed = false) (cmd arg : Bytes) :
    Good a0 (dispatch s cmd arg) := by
  unfold dispatch
  cases verbOf cmd
  case unimpl => exact write_good h _
  case greet =>
    dsimp only
    rcases dispatchGreet_cases s cmd arg with ⟨_, he⟩ | ⟨_, he⟩ <;> rw [he]
    · exact write_good h _
    · exact recover_good (handleGreet_good h hcl _ _)
  case mail => exact recover_good (handleMail_good h _)
  case rcpt => exact recover_good (handleRcpt_good h _)
  case vrfy => exact write_good h _
  case noop => exact write_good h _
  case rset => exact write_good (resetConn_good h) _
  case bdat => exact recover_good (handleBdat_good h hcl _)
  case data => exact recover_good (handleData_good h _)
  case quit => exact closeConn_good (write_good h _)
  case auth => exact recover_good (handleAuth_good h _)
  case starttls => exact handleStartTLS_good h hcl
  case unknown => exact protocolErrorB_good h _ _ _

theorem handle_good {a0 : A} {s : S} (h : Good a0 s) (hcl : s.c.closed = false) (cmd arg : Bytes) :
    Good a0 (handle s cmd arg) := by
  unfold handle
  split
  · exact protocolError_good h _ _ _
  · exact dispatch_good h hcl _ _

theorem loop_good {a0 : A} (fuel : Nat) : ∀ {s : S}, Good a0 s → Good a0 (loop fuel s) := by
  induction fuel with
  | zero => exact fun h => h
  | succ fuel ih =>
    intro s h
    unfold loop
    split
    · exact h
    · rename_i hcl
      generalize hq : connReadLine s = q
      obtain ⟨s1, r⟩ := q
      have hs1 := connReadLine_same hq
      have h1 := hs1.neutral.good h
      cases r with
      | ok line =>
        dsimp only
        rw [← hs1.c, Bool.not_eq_true] at hcl
        have h2 := h1.emit (.cmd line) (step_ok.2 ⟨nofun, hcl, rfl⟩) h1.shape
        split
        · exact ih (protocolError_good h2 _ _ _)
        · exact ih (handle_good h2 hcl _ _)
      | error e =>
        cases e with
        | eof | closed => exact h1
        | tooLong | timeout => exact write_good h1 _

/-- **the whole connection.**  Greeting, command loop, deferred `Close`: the invariant holds at the end, the
    connection is closed and nobody is left logged in. -/
theorem serve_good {a0 : A} {s : S} (h : Good a0 s) :
    Good a0 (serve s) ∧ (serve s).cfg = s.cfg ∧ (serve s).c.closed = true ∧ (serve s).c.session = none :=
  ⟨closeConn_good (loop_good _ (write_good h _)), cfg_closed.serve s, by rw [serve, closeConn_c], by rw [serve, closeConn_c]⟩

end SmtpV.Server
