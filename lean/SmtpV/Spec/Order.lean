import SmtpV.Spec.Events
/-!
The *ordering* monitor: one judge for every rule about which backend callbacks may occur when
(C03 transaction order, C08 session lifecycle, C09 reachability of AUTH, C10 the TLS state a new
session sees).  It reads the trace only.  The per-property monitors of Spec/Monitors.lean are
projections of it (proved in Props/Projections.lean).
-/
namespace SmtpV.Spec.Order
open SmtpV SmtpV.Spec

structure A where
  live : Option Nat := none     -- the session that is logged in
  nextId : Nat := 0             -- number of NewSession calls so far
  closed : Bool := false        -- the connection has been closed
  tls : Bool := false           -- TLS is active on the connection
  upgrading : Bool := false     -- a STARTTLS handshake has just succeeded; the old session must be logged out next
  mailOk : Bool := false        -- a Mail of the current transaction has been accepted
  nrcpt : Nat := 0              -- recipients accepted in the current transaction
  transfer : Bool := false      -- a Data/LMTPData call has begun in the current transaction
  authed : Bool := false        -- an AUTH exchange has succeeded in the live session
deriving Repr, DecidableEq, Inhabited

/-- right after a successful STARTTLS with a session still logged in, only its Logout may follow -/
@[simp] def blocked (m : A) (e : Ev) : Bool :=
  m.upgrading && m.live.isSome && (match e with | .logout _ => false | _ => true)

/-- the rules proper, event by event -/
@[simp] def core (cfg : Cfg) (m : A) (e : Ev) : Except String A :=
  match e with
  | .w _ => if m.closed then .error "C08 write after the connection was closed" else .ok { m with upgrading := false }
  | .cmd _ => if m.closed then .error "C08 a command was read after the connection was closed" else .ok { m with upgrading := false }
  | .panicLog => .ok m
  | .tlsStart ok =>
    if m.closed then .error "C08 TLS handshake after close"
    else if m.tls then .error "C10 STARTTLS accepted although TLS is already active"
    else if !cfg.tlsAvail then .error "C10 STARTTLS accepted although TLS is not configured"
    else .ok (if ok then { m with tls := true, upgrading := m.live.isSome } else m)      -- (only a live session has to be logged out)
  | .close =>
    if m.closed then .error "C08 closed twice"
    else if m.live.isSome then .error "C08 connection closed while a session is still logged in"
    else .ok { m with closed := true }
  | .ns id helo tls r =>
    if m.closed then .error "C08 NewSession after the connection ended"
    else if m.live.isSome then .error "C03/C08 NewSession while a session is live"
    else if id != m.nextId then .error "C08 session identities out of order"
    else if tls != m.tls then .error "C03/C10 the TLS state seen by NewSession is not the connection's"
    else if helo.isEmpty then .error "C03 NewSession without a greeting name"
    else .ok { m with nextId := id + 1, live := if r == .ok then some id else none, upgrading := false,
                      mailOk := false, nrcpt := 0, transfer := false, authed := false }
  | .logout id =>
    if m.live != some id then .error "C08 Logout on a session that is not live"
    else .ok { m with live := none, upgrading := false, mailOk := false, nrcpt := 0, transfer := false, authed := false }
  | .reset id =>
    if m.live != some id then .error "C03/C08 Reset on a session that is not live"
    else .ok { m with mailOk := false, nrcpt := 0, transfer := false }
  | .mail id _ _ r =>
    if m.live != some id then .error "C03/C08 Mail without a live session created by a greeting"
    else if m.transfer then .error "C03 Mail while a message transfer of the current transaction has begun"
    else .ok (if r == .ok then { m with mailOk := true } else m)
  | .rcpt id _ _ r =>
    if m.live != some id then .error "C03/C08 Rcpt without a live session"
    else if !m.mailOk then .error "C03 Rcpt without an accepted Mail of the current transaction"
    else if m.transfer then .error "C03 Rcpt after the message transfer has begun"
    else if cfg.maxRcpt > 0 && m.nrcpt ≥ cfg.maxRcpt then .error "C03 more accepted recipients than the configured maximum"
    else .ok (if r == .ok then { m with nrcpt := m.nrcpt + 1 } else m)
  | .dataBegin id _ =>
    if m.live != some id then .error "C03/C08 Data without a live session"
    else if !m.mailOk then .error "C03 Data without an accepted Mail"
    else if m.nrcpt == 0 then .error "C03 Data without an accepted Rcpt of the current transaction"
    else if m.transfer then .error "C03 a second Data in one transaction"
    else .ok { m with transfer := true }
  | .authMech id _ _ =>
    if m.live != some id then .error "C08/C09 Auth without a live session (no greeting)"
    else if !(m.tls || cfg.insecureAuth) then .error "C09 SASL mechanism consulted on an insecure connection"
    else if m.authed then .error "C09 Auth after a successful authentication"
    else .ok m
  | .sasl _ _ done r =>
    if m.live.isNone then .error "C08/C09 SASL step without a live session"
    else if !(m.tls || cfg.insecureAuth) then .error "C09 SASL mechanism received octets on an insecure connection"
    else if m.authed then .error "C09 SASL step after a successful authentication"
    else .ok (if done && r == .ok then { m with authed := true } else m)

def step (cfg : Cfg) (m : A) (e : Ev) : Except String A :=
  if blocked m e then
    .error "C10 after a successful STARTTLS the plaintext session must be logged out before anything else"
  else core cfg m e

def run (cfg : Cfg) : A → List Ev → Except String A
  | m, [] => .ok m
  | m, e :: t =>
    match step cfg m e with
    | .ok m' => run cfg m' t
    | .error r => .error r

/-- a complete trace: the connection was closed and nobody is left logged in -/
def fin (m : A) : List String :=
  (if m.live.isSome then ["C08 a session was never logged out"] else []) ++
  (if !m.closed then ["C08 the trace ends without the connection being closed"] else [])

def check (cfg : Cfg) (init : A) (evs : List Ev) : List String :=
  match run cfg init evs with
  | .ok m => fin m
  | .error r => [r]

theorem run_append (cfg : Cfg) (m : A) (a b : List Ev) :
    run cfg m (a ++ b) = (match run cfg m a with | .ok m' => run cfg m' b | .error r => .error r) := by
  induction a generalizing m with
  | nil => simp [run]
  | cons e a ih =>
    simp only [List.cons_append, run]
    cases step cfg m e <;> simp [ih]

theorem guard_ok {α : Type} {c : Prop} [Decidable c] {s : String} {x : Except String α} {y : α} :
    (if c then Except.error s else x) = .ok y ↔ ¬ c ∧ x = .ok y := by
  split <;> simp [*]

theorem guard_ok' {α : Type} {c : Prop} [Decidable c] {s : String} {x : Except String α} {y : α} :
    (if c then x else Except.error s) = .ok y ↔ c ∧ x = .ok y := by
  split <;> simp [*]

/-- `step` as guard and update, event by event -/
theorem step_ok {cfg : Cfg} {a a1 : A} {e : Ev} : step cfg a e = .ok a1 ↔
    (a.upgrading = true → a.live = none ∨ ∃ id, e = .logout id) ∧
    match e with
    | .w _ | .cmd _ => a.closed = false ∧ a1 = { a with upgrading := false }
    | .panicLog => a1 = a
    | .tlsStart ok => a.closed = false ∧ a.tls = false ∧ cfg.tlsAvail = true ∧
        a1 = { a with tls := a.tls || ok, upgrading := if ok then a.live.isSome else a.upgrading }
    | .close => a.closed = false ∧ a.live = none ∧ a1 = { a with closed := true }
    | .ns id helo tls r => a.closed = false ∧ a.live = none ∧ id = a.nextId ∧ tls = a.tls ∧ helo ≠ [] ∧
        a1 = { a with nextId := id + 1, live := if r == .ok then some id else none, upgrading := false,
                      mailOk := false, nrcpt := 0, transfer := false, authed := false }
    | .logout id => a.live = some id ∧
        a1 = { a with live := none, upgrading := false, mailOk := false, nrcpt := 0, transfer := false, authed := false }
    | .reset id => a.live = some id ∧ a1 = { a with mailOk := false, nrcpt := 0, transfer := false }
    | .mail id _ _ r => a.live = some id ∧ a.transfer = false ∧ a1 = { a with mailOk := a.mailOk || r == .ok }
    | .rcpt id _ _ r => a.live = some id ∧ a.mailOk = true ∧ a.transfer = false ∧
        (cfg.maxRcpt > 0 → a.nrcpt < cfg.maxRcpt) ∧ a1 = { a with nrcpt := if r == .ok then a.nrcpt + 1 else a.nrcpt }
    | .dataBegin id _ => a.live = some id ∧ a.mailOk = true ∧ a.nrcpt ≠ 0 ∧ a.transfer = false ∧
        a1 = { a with transfer := true }
    | .authMech id _ _ => a.live = some id ∧ (a.tls = true ∨ cfg.insecureAuth = true) ∧ a.authed = false ∧ a1 = a
    | .sasl _ _ done r => a.live ≠ none ∧ (a.tls = true ∨ cfg.insecureAuth = true) ∧ a.authed = false ∧
        a1 = { a with authed := a.authed || done && r == .ok } := by
  unfold step
  rw [guard_ok]
  refine and_congr ?_ ?_
  · unfold blocked
    split
    next => simp
    next h => simp [not_exists.2 h]
  cases e
  case mail r | rcpt r => cases hr : r == .ok <;> simp [hr, guard_ok, guard_ok', eq_comm (a := a1)]
  case tlsStart ok => cases ok <;> simp [guard_ok, eq_comm (a := a1)]
  case sasl d r => cases hc : d && r == .ok <;> simp [hc, guard_ok, eq_comm (a := a1), Decidable.imp_iff_not_or]
  all_goals simp [guard_ok, guard_ok', eq_comm (a := a1), Decidable.imp_iff_not_or]

end SmtpV.Spec.Order
