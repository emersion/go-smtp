import SmtpV.Proofs.HandlerCases
/-!
# C11 on the server model's handlers: exactly the decoded arguments reach the backend, or the command is refused

`mailDecode` / `rcptDecode` (Proofs/ParamSwitch.lean) compose, in the order of conn.go, the keyword check, `strings.TrimSpace`,
the path parser, `parseArgs` and the parameter switch.  The theorems, read off `Server.handleMail_cases` / `handleRcpt_cases`,
say that `handleMail` / `handleRcpt` do one of three things, for every connection state and every argument octet string: call the backend with exactly the decoded mailbox and options; or
write one reply with a 5xx code (452 for the recipient limit) and call nothing; or — with no session object, a state the
command loop never reaches after a greeting — panic without having called anything.
-/
namespace SmtpV.Props.C11
open SmtpV SmtpV.Spec SmtpV.Text SmtpV.Parse SmtpV.Server

/-- a state that differs from `s` in nothing a backend or the peer can observe: same trace, same backend script, same
    "socket closed" flag (the MAIL handler may clear the BINARYMIME flag before it refuses) -/
def SameObs (s' s : S) : Prop := s'.evs = s.evs ∧ s'.be = s.be ∧ s'.c.closed = s.c.closed ∧ s'.drecs = s.drecs

theorem sameObs_clear (s : S) (b : Bool) : SameObs (if b then setBinarymime s false else s) s := by
  cases b <;> exact ⟨rfl, rfl, rfl, rfl⟩

/-- **C11_mail_exact_or_refused.**  For every connection state and every argument: `handleMail` calls `Session.Mail` with
    exactly the decoded mailbox and options (`mailCall`: the call is the first thing it does); or answers with one 5xx reply
    and calls nothing; or, when there is no session object, panics having called and written nothing. -/
theorem C11_mail_exact_or_refused (s : S) (arg : Bytes) :
    (∃ frm o bm id, mailDecode (effCfg s) arg = some (frm, o, bm) ∧ s.c.session = some id ∧
        handleMail s arg = mailCall (setBinarymime s bm) id frm o)
    ∨ (∃ code enh text s', 500 ≤ code ∧ code ≤ 599 ∧ enh.a = 5 ∧ SameObs s' s ∧
        handleMail s arg = (reply s' code enh text, false))
    ∨ (s.c.session = none ∧ ∃ s', SameObs s' s ∧ handleMail s arg = (s', true)) := by
  rcases handleMail_cases s arg with ⟨b, code, enh, text, k1, k2, k3, he⟩ | ⟨_, _, bm, _, hs, he⟩ | ⟨id, frm, o, bm, hd, _, _, hs, he⟩
  · exact .inr (.inl ⟨code, enh, text, _, k1, k2, k3, sameObs_clear s b, he⟩)
  · exact .inr (.inr ⟨hs, setBinarymime s bm, ⟨rfl, rfl, rfl, rfl⟩, he⟩)
  · exact .inl ⟨frm, o, bm, id, hd, hs, he⟩

/-- **C11_mail_refused_before_backend.**  The refusal half, as the property states it: when the argument does not decode —
    no `FROM:`, a malformed path, unparsable parameters, or a parameter that is unknown, malformed or belongs to a disabled
    extension — the answer is a 5xx reply and the backend is not called, whatever state the connection is in. -/
theorem C11_mail_refused_before_backend (s : S) (arg : Bytes) (h : mailDecode (effCfg s) arg = none) :
    ∃ code enh text s', 500 ≤ code ∧ code ≤ 599 ∧ enh.a = 5 ∧ SameObs s' s ∧ handleMail s arg = (reply s' code enh text, false) := by
  rcases handleMail_cases s arg with ⟨b, code, enh, text, k1, k2, k3, he⟩ | ⟨_, _, _, hd, _⟩ | ⟨_, _, _, _, hd, _⟩
  · exact ⟨code, enh, text, _, k1, k2, k3, sameObs_clear s b, he⟩
  · rw [h] at hd; cases hd
  · rw [h] at hd; cases hd

/-- **C11_rcpt_exact_or_refused.**  The same for RCPT; the recipient limit is the one 4xx refusal (452). -/
theorem C11_rcpt_exact_or_refused (s : S) (arg : Bytes) :
    (∃ rcpt o id, rcptDecode s.cfg arg = some (rcpt, o) ∧ s.c.session = some id ∧
        ∃ tl, (handleRcpt s arg).1.evs = tl ++ Ev.rcpt id rcpt o (popRcpt s).1 :: s.evs ∧ ∀ e ∈ tl, ∃ bs, e = Ev.w bs)
    ∨ (∃ code enh text, 500 ≤ code ∧ code ≤ 599 ∧ enh.a = 5 ∧ handleRcpt s arg = (reply s code enh text, false))
    ∨ (∃ texts, s.cfg.maxRcpt > 0 ∧ s.c.recipients.length ≥ s.cfg.maxRcpt ∧ handleRcpt s arg = (replyB s 452 ⟨4, 5, 3⟩ texts, false))
    ∨ (s.c.session = none ∧ handleRcpt s arg = (s, true)) := by
  rcases handleRcpt_cases s arg with h | h | ⟨_, _, _, h⟩ | ⟨id, rcpt, o, hd, _, _, _, hs, he⟩
  · exact .inr (.inl h)
  · exact .inr (.inr (.inl h))
  · exact .inr (.inr (.inr h))
  · obtain ⟨tl, h, hw⟩ := (rcptCall_called s id rcpt o).evs
    obtain ⟨_, hp⟩ := popRcpt_popped s
    exact .inl ⟨rcpt, o, id, hd, hs, tl, by rw [he, h, emit_evs, hp], hw⟩

/-! ### a keyword followed by `=` and nothing (fixed in parse.go: `esmtp-value` is `1*`) -/

theorem foldl_argFail (f : Option (List (Bytes × Bytes)) → Bytes → Option (List (Bytes × Bytes)))
    (hf : ∀ a, f none a = none) (l : List Bytes) : l.foldl f none = none := by
  induction l with
  | nil => rfl
  | cons a l ih => simp only [List.foldl_cons, hf, ih]

/-- **C11_empty_value_refused (parser).**  A parameter string one of whose space-separated fields is `KEYWORD=` — an equals sign
    with no value behind it — does not parse, wherever the field stands and whatever the keyword is: `SMTPUTF8=` is not the
    flag `SMTPUTF8`. -/
theorem C11_empty_value_unparsable (s arg k : Bytes) (hmem : arg ∈ fields s) (hsplit : splitByte arg 61 = [k, []]) :
    parseArgs s = none := by
  obtain ⟨l1, l2, hl⟩ := List.append_of_mem hmem
  unfold parseArgs
  rw [hl, List.foldl_append, List.foldl_cons]
  generalize List.foldl _ (some []) l1 = acc
  cases acc with
  | none => exact foldl_argFail _ (fun _ => rfl) l2
  | some m =>
    simp only [hsplit, List.isEmpty_nil, if_true]
    exact foldl_argFail _ (fun _ => rfl) l2

/-- **C11_empty_value_refused.**  … and so a MAIL or RCPT line carrying such a field is not decoded, hence (by
    `C11_mail_refused_before_backend`) answered 5xx without the backend. -/
theorem C11_empty_value_refused (cfg : Cfg) (arg a frm rest field k : Bytes)
    (hc : cutPrefixFold arg "FROM:".b = some a) (hp : parseReversePath (trimSpace a) = some (frm, rest))
    (hmem : field ∈ fields rest) (hsplit : splitByte field 61 = [k, []]) :
    mailDecode cfg arg = none := by
  simp only [mailDecode, hc, hp, C11_empty_value_unparsable rest field k hmem hsplit]

example : mailDecode { utf8 := true } "FROM:<a@b> SMTPUTF8=".b = none := by decide +kernel
example : (mailDecode { utf8 := true } "FROM:<a@b> SMTPUTF8".b).isSome = true := by decide +kernel

end SmtpV.Props.C11
