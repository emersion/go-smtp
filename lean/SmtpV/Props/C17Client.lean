import SmtpV.Proofs.ClientRun
/-!
# C17, client side of the greeting: the answer to LHLO is the result

The LMTP client does not fall back to HELO when LHLO is refused with 500 or 502 (client.go, repaired in a135dac): a backend that
refuses the session with such a code has its error reported, not the reply to a HELO that no LMTP server understands.
-/
namespace SmtpV.Props.C17
open SmtpV SmtpV.Text SmtpV.Client

/-- **C17_lmtp_hello_reports_refusal.**  An LMTP client whose greeting exchange has not happened yet: when the server's reply to
    `LHLO` is an error reply `e` — whatever its code, 500 and 502 included — the hello exchange ends there and its result is `e`;
    no other command is sent. -/
theorem C17_lmtp_hello_reports_refusal (c c1 c2 : C) (e : SErr) (hd : c.didHello = false) (hg : c.greet = (c1, none))
    (hl : c1.lmtp = true)
    (hc : ({ c1 with didHello := true } : C).cmd 250 ("LHLO ".b ++ c1.localName) = (c2, .smtpErr e)) :
    c.hello = ({ c2 with helloErr := some (.smtp e) }, some (.smtp e)) := by
  have hl2 : c2.lmtp = true := by
    have := (cmd_fixed ({ c1 with didHello := true } : C) 250 ("LHLO ".b ++ c1.localName)).lmtp
    rw [hc] at this
    simpa [hl] using this
  have hc' := hc
  simp only [hl] at hc'
  unfold C.hello
  simp only [hd, Bool.false_eq_true, if_false, hg, hl, if_true, hc', hl2, Bool.not_true, Bool.and_false]

end SmtpV.Props.C17
