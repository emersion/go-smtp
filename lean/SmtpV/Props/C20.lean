import SmtpV.Model.Lifecycle
import SmtpV.Model.Chunked
import SmtpV.Model.LateStart
/-!
# C20 — no data races or deadlocks; Close and Shutdown end serving exactly once  (**partial**)

What is proved is the logic that can be modelled: the lifecycle bookkeeping of `Serve`/`Close`/
`Shutdown` and the channel protocol of chunked deliveries for every schedule.  The Go memory model,
the scheduler and goroutines blocked in the kernel are not expressible in the executable model;
the `sched`/`accept` probes (the former also under the race detector) tie the model to the code.
-/
namespace SmtpV.Props.C20
open SmtpV SmtpV.Lifecycle SmtpV.Chunked

/-- **C20_second_close.**  Whatever the accept history, of two calls to `Close`/`Shutdown` the first
    ends serving and the second reports that the server is already closed. -/
theorem C20_second_close (script : List Outcome) (e1 e2 : Ending) (h1 : e1 ≠ .none) (h2 : e2 ≠ .none) :
    (run script [e1, e2]).ends = ["nil", "closed"] := by
  cases e1
  case none => exact absurd rfl h1
  all_goals
    cases e2
    case none => exact absurd rfl h2
    all_goals rfl

theorem nextDelay_le (d : Nat) : nextDelay d ≤ 1000 := by
  unfold nextDelay; split
  · omega
  · exact Nat.min_le_right _ _

theorem acceptLoop_delays (script : List Outcome) (a : Lifecycle.Acc) (hd : ∀ d ∈ a.delays, d ≤ 1000) :
    ∀ d ∈ (acceptLoop script a).delays, d ≤ 1000 := by
  induction script generalizing a with
  | nil => exact hd
  | cons o t ih =>
    cases o with
    | conn => exact ih _ hd
    | temp => exact ih _ (List.forall_mem_append.mpr ⟨hd, List.forall_mem_singleton.mpr (nextDelay_le _)⟩)
    | perm => exact hd

theorem acceptLoop_indep (script : List Outcome) (a b : Lifecycle.Acc) (h1 : a.accepted = b.accepted) (h2 : a.ret = b.ret) :
    (acceptLoop script a).ret = (acceptLoop script b).ret ∧ (acceptLoop script a).accepted = (acceptLoop script b).accepted := by
  induction script generalizing a b with
  | nil => exact ⟨h2, h1⟩
  | cons o t ih =>
    cases o with
    | conn => exact ih _ _ (congrArg (· + 1) h1) h2
    | temp => exact ih _ _ h1 h2
    | perm => exact ⟨rfl, h1⟩

theorem acceptLoop_temps (n : Nat) (rest : List Outcome) (a : Lifecycle.Acc) :
    (acceptLoop (List.replicate n .temp ++ rest) a).ret = (acceptLoop rest a).ret ∧
    (acceptLoop (List.replicate n .temp ++ rest) a).accepted = (acceptLoop rest a).accepted := by
  induction n generalizing a with
  | zero => exact ⟨rfl, rfl⟩
  | succ n ih =>
    have i := acceptLoop_indep rest { a with delay := nextDelay a.delay, delays := a.delays ++ [nextDelay a.delay] } a rfl rfl
    exact ⟨(ih _).1.trans i.1, (ih _).2.trans i.2⟩

/-- **C20_temp_errors.**  `Serve` survives any run of temporary `Accept` errors: `n` of them in front
    of any accept history change neither what `Serve` returns nor how many connections it accepts —
    and every delay it sleeps is at most one second. -/
theorem C20_temp_errors (n : Nat) (rest : List Outcome) (es : List Ending) :
    (run (List.replicate n .temp ++ rest) es).serve = (run rest es).serve ∧
    (run (List.replicate n .temp ++ rest) es).accepted = (run rest es).accepted ∧
    ∀ d ∈ (run (List.replicate n .temp ++ rest) es).delays, d ≤ 1000 := by
  obtain ⟨k1, k2⟩ := acceptLoop_temps n rest {}
  exact ⟨by simp only [run, k1], k2, acceptLoop_delays _ {} (List.forall_mem_nil _)⟩

/-- invariant of the repaired code: channel `t` only ever holds transfer `t`'s verdict -/
def Inv (res : Nat → Nat) (c : Conf) : Prop :=
  (∀ t b, c.chans[t]? = some b → ∀ v ∈ b, v = res t) ∧ OwnVerdict res c

theorem chans_set {res : Nat → Nat} {ch : List (List Nat)} (h : ∀ t b, ch[t]? = some b → ∀ v ∈ b, v = res t)
    {t : Nat} {b : List Nat} (hb : ∀ v ∈ b, v = res t) :
    ∀ t' b', (ch.set t b)[t']? = some b' → ∀ v ∈ b', v = res t' := by
  intro t' b' h'
  by_cases ht : t = t'
  · subst ht
    obtain ⟨_, rfl⟩ := List.getElem?_eq_some_iff.mp h'
    rw [List.getElem_set_self]
    exact hb
  · exact h t' b' (List.getElem?_set_ne ht ▸ h')

theorem inv_init (res : Nat → Nat) (prog : List Op) : Inv res (Chunked.init prog) :=
  ⟨fun t b h => by simp [Chunked.init] at h, fun p hp => by simp [Chunked.init] at hp⟩

theorem inv_gStep (res : Nat → Nat) (c : Conf) (t : Nat) (h : Inv res c) :
    Inv res (gStep false res c t) := by
  unfold gStep
  split
  · exact h
  · simp only [Bool.false_eq_true, if_false]
    split
    · exact ⟨chans_set h.1 (by simp), h.2⟩
    · exact h
  · exact h

theorem inv_loopStep (res : Nat → Nat) (c : Conf) (h : Inv res c) : Inv res (loopStep c) := by
  unfold loopStep
  split
  · next t _ =>
    split
    · next v rest hch =>
      -- the verdict received on channel `t` is `res t` by the first half, and so is what stays in the buffer
      have hv := h.1 t _ hch
      refine ⟨chans_set h.1 fun w hw => hv w (List.mem_cons_of_mem _ hw), fun p hp => ?_⟩
      rcases List.mem_append.mp hp with hp | hp
      · exact h.2 p hp
      · cases List.mem_singleton.mp hp; exact hv v (List.mem_cons_self ..)
    · exact h
  · split
    · exact h
    · -- a new transfer: its channel, the last of the list, is empty
      refine ⟨fun t' b hb w hw => ?_, h.2⟩
      by_cases ht : t' < c.chans.length
      · exact h.1 t' b (List.getElem?_append_left ht ▸ hb) w hw
      · rw [List.getElem?_append_right (Nat.le_of_not_lt ht)] at hb
        cases List.mem_singleton.mp (List.mem_of_getElem? hb)
        cases hw
    · exact h
    · split <;> exact h

/-- **C04_own_verdict / C20 (functional part).**  For every program of transfers and EVERY schedule of
    the command loop and the delivery goroutines, the verdict reported for a transfer is the backend's
    verdict for that very transfer. -/
theorem own_verdict_all_schedules (res : Nat → Nat) (prog : List Op) (sched : List Nat) :
    OwnVerdict res (exec false res (Chunked.init prog) sched) :=
  (List.foldlRecOn sched _ (inv_init res prog) fun c h k _ => by
    cases k
    · exact inv_loopStep res c h
    · exact inv_gStep res c _ h).2

/-- in the repaired code a delivery that wants to report is never blocked: its own channel is empty
    until it sends (it is the only sender and sends once) — no goroutine is left behind -/
theorem never_blocked_step (res : Nat → Nat) (c : Conf) (t : Nat)
    (hs : c.gs[t]? = some .sending) (hc : c.chans[t]? = some []) :
    (gStep false res c t).gs[t]? = some .done := by
  unfold gStep
  simp only [hs, Bool.false_eq_true, if_false, hc]
  have hlt : t < c.gs.length := (List.getElem?_eq_some_iff.mp hs).1
  simp [hlt]

/-- the pinned tree's behaviour, kept as a regression witness: with the goroutine reading
    `c.dataResult` at the end, a 7-step schedule hands transfer 0's verdict to transfer 1 -/
theorem pinned_tree_counterexample :
    ¬ OwnVerdict (fun t => 100 + t)
      (exec true (fun t => 100 + t) (Chunked.init [.openT, .abort, .openT, .last]) [0, 0, 0, 1, 1, 0, 0]) := by
  decide

/-- and a second stale delivery is stuck for ever on the (full) current channel: a leaked goroutine -/
theorem pinned_tree_leak :
    stuck true (exec true (fun t => 100 + t)
      (Chunked.init [.openT, .abort, .openT, .abort, .openT]) [0, 0, 0, 0, 0, 1, 1, 2, 2]) 1 = true := by
  decide

/-- non-vacuity: in the repaired semantics the same schedule reports transfer 1's own verdict -/
example : (exec false (fun t => 100 + t) (Chunked.init [.openT, .abort, .openT, .last]) [0, 0, 0, 1, 1, 2, 2, 0, 0]).replies =
    [(1, 101)] := by decide

theorem endings2_closed (es : List Ending) (lerr : Bool) (n : Nat) :
    (endings2 es true lerr n).2 = n ∧ ∀ r ∈ (endings2 es true lerr n).1, r = "closed" ∨ r = "-" := by
  induction es with
  | nil => exact ⟨rfl, List.forall_mem_nil _⟩
  | cons e t ih =>
    cases e with
    | close | shutdown => exact ⟨ih.1, List.forall_mem_cons.2 ⟨.inl rfl, ih.2⟩⟩
    | none => exact ⟨ih.1, List.forall_mem_cons.2 ⟨.inr rfl, ih.2⟩⟩

/-- **C20_close_ends_everything.**  `Close` on a server with any number of listeners and idle connections, whether or not a
    listener's own `Close` reports an error: no connection is left open, the error is reported, and every later
    `Close`/`Shutdown` reports that the server is closed. -/
theorem C20_close_ends_everything (nA nB : Nat) (errA errB : Bool) (rest : List Ending) :
    (run2 nA nB errA errB (.close :: rest)).opened = 0 ∧
    (run2 nA nB errA errB (.close :: rest)).ends.head? = some (if errA || errB then "listenerr" else "nil") ∧
    (∀ r ∈ (run2 nA nB errA errB (.close :: rest)).ends.tail, r = "closed" ∨ r = "-") ∧
    (run2 nA nB errA errB (.close :: rest)).serveA = "nil" ∧ (run2 nA nB errA errB (.close :: rest)).serveB = "nil" :=
  have h := endings2_closed rest (errA || errB) 0
  ⟨h.1, rfl, h.2, rfl, rfl⟩

/-! ### the start of a chunked delivery against `Conn.Close` (model `LateStart`, fix c1a4e24) -/

/-- **C20_late_start_no_panic.**  Under every schedule of the command loop (any number of transfers, `Close` at any point) and the
    delivery goroutines, the repaired code never dereferences a nil session: no recovered panic (also C19). -/
theorem C20_late_start_no_panic (prog : List LateStart.Op) (sched : List Nat) :
    (LateStart.exec true { prog := prog } sched).panics = 0 :=
  List.foldlRecOn sched _ (motive := fun c => c.panics = 0) rfl fun c h k _ => (LateStart.step_panics c k).trans h

/-- **C20_late_start_never_calls.**  A delivery that has not looked at the session by the time the connection is closed never calls the
    backend, however the goroutines are scheduled afterwards (also C08: no callback begins after Logout from a late start). -/
theorem C20_late_start_never_calls (sched : List Nat) (c : LateStart.Conf) (t : Nat) (h : LateStart.Dead c t) :
    t ∉ (LateStart.exec true c sched).dataCalls :=
  (List.foldlRecOn sched _ (motive := fun c => LateStart.Dead c t) h fun c h k _ => LateStart.dead_step c t k h).2.2

/-- the tree before the repair: BDAT, the peer goes away, the goroutine gets to run — a recovered panic -/
theorem C20_late_start_pinned_panics :
    (LateStart.exec false { prog := [.spawn, .close] } [0, 0, 1]).panics = 1 := by decide

/-- what no small patch closes: the goroutine sees the session, `Close` logs it out, then `Data` begins — a callback that begins
    after Logout (C08) is still possible; closing this window needs `Close` to wait for the delivery -/
theorem C20_late_start_window_remains :
    (LateStart.exec true { prog := [.spawn, .close] } [0, 1, 0, 1]).lateCalls = 1 := by decide

end SmtpV.Props.C20
