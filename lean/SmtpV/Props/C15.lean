import SmtpV.Proofs.OneLine
import SmtpV.Proofs.ParamGated
/-!
# C15 — the client writes one command line per call and only negotiated parameters

Model level (`Client.mailLine`, `Client.rcptLine`; tied to client.go by the `cconv` correspondence).
The theorems quantify over EVERY argument value — addresses, option strings, times — hostile ones
included.
-/
namespace SmtpV.Props.C15
open SmtpV SmtpV.Text SmtpV.Xtext SmtpV.Client SmtpV.OneLine

theorem NoNL_of_check (l : Bytes) (h : l.all (fun b => b != 10 && b != 13) = true) : NoNL l :=
  NoNL_of_all l _ (fun b hb => by simpa using hb) h

theorem padDec_NoNL (n : Int) (w : Nat) : NoNL (padDec n w) := by
  unfold padDec
  refine NoNL_append.mpr ⟨?_, natToDec_NoNL _⟩
  intro b hb
  have := List.eq_of_mem_replicate hb
  subst this; decide

theorem zoneText_NoNL (o : Int) : NoNL (zoneText o) := by
  unfold zoneText
  split
  · decide
  · refine NoNL_append.mpr ⟨NoNL_append.mpr ⟨NoNL_append.mpr ⟨?_, padDec_NoNL _ _⟩, by decide⟩, padDec_NoNL _ _⟩
    split <;> decide

theorem formatRFC3339_NoNL (u o : Int) : NoNL (formatRFC3339 u o) := by
  simp only [formatRFC3339, NoNL_append, padDec_NoNL, zoneText_NoNL, (by decide : NoNL [45]), (by decide : NoNL [58]),
    (by decide : NoNL [84]), and_self]

-- The line stands on the left of its equation: as an `rfl` pattern that substitutes `l` at once, the other way round
-- `subst` first evaluates the literal at the head of the line.
theorem mailLine_some {ext frm o l} (h : mailLine ext frm o = some l) :
    validLine frm = true ∧ ∃ ps, mailParams ext o = some ps ∧ "MAIL FROM:<".b ++ frm ++ ">".b ++ ps = l := by
  revert h
  -- an address with CR or LF, a parameter that is a local error: no line; else the line
  fun_cases mailLine ext frm o with
  | case1 | case2 => nofun
  | case3 hv ps hps => exact fun h => ⟨by simpa using hv, ps, hps, Option.some.inj h⟩

theorem rcptLine_some {ext to o l} (h : rcptLine ext to o = some l) :
    validLine to = true ∧ ((o = none ∧ "RCPT TO:<".b ++ to ++ ">".b = l) ∨
      ∃ o' ps, o = some o' ∧ rcptParams ext o' = some ps ∧ "RCPT TO:<".b ++ to ++ ">".b ++ ps = l) := by
  revert h
  -- an address with CR or LF (1), a parameter that is a local error (3): no line; the line without (2) and with options (4)
  fun_cases rcptLine ext to o with
  | case1 | case3 => nofun
  | case2 hv => exact fun h => ⟨by simpa using hv, .inl ⟨rfl, Option.some.inj h⟩⟩
  | case4 hv o' ps hps => exact fun h => ⟨by simpa using hv, .inr ⟨o', ps, rfl, hps, Option.some.inj h⟩⟩

/-- **C15_hostile_address_refused.**  An address containing CR or LF is a local error: no line at all. -/
theorem C15_hostile_address_refused (ext : List (Bytes × Bytes)) (a : Bytes) (h : ¬ NoNL a) :
    (∀ o, mailLine ext a o = none) ∧ (∀ o, rcptLine ext a o = none) := by
  have hv : validLine a = false := by
    cases hvl : validLine a with
    | false => rfl
    | true => exact absurd (validLine_NoNL a hvl) h
  constructor <;> intro o <;> simp [mailLine, rcptLine, hv]

/-- **C15_mail_params_gated.**  Whatever options are requested, the MAIL line is the address followed by six pieces,
    one per extension, and each piece is empty unless its extension is in the capabilities of the latest EHLO
    (`ext`); a requested REQUIRETLS or SMTPUTF8 is on the line (never dropped). -/
theorem C15_mail_params_gated (ext : List (Bytes × Bytes)) (frm : Bytes) (o : MailOptions) (l : Bytes)
    (h : mailLine ext frm (some o) = some l) :
    ∃ b s t u d a : Bytes, l = "MAIL FROM:<".b ++ frm ++ ">".b ++ (b ++ s ++ t ++ u ++ d ++ a) ∧
      (b = [] ∨ (hasExt ext "8BITMIME" = true ∧ (b = " BODY=7BIT".b ∨ b = " BODY=8BITMIME".b)) ∨
        (hasExt ext "BINARYMIME" = true ∧ b = " BODY=BINARYMIME".b)) ∧
      (s = [] ∨ (hasExt ext "SIZE" = true ∧ s = " SIZE=".b ++ intToDec o.size)) ∧
      ((t = [] ∧ o.requireTLS = false) ∨ (hasExt ext "REQUIRETLS" = true ∧ o.requireTLS = true ∧ t = " REQUIRETLS".b)) ∧
      ((u = [] ∧ o.utf8 = false) ∨ (hasExt ext "SMTPUTF8" = true ∧ o.utf8 = true ∧ u = " SMTPUTF8".b)) ∧
      (d = [] ∨ (hasExt ext "DSN" = true ∧ ∃ r e, d = r ++ e ∧ (r = [] ∨ r = " RET=FULL".b ∨ r = " RET=HDRS".b) ∧
        (e = [] ∨ e = " ENVID=".b ++ encodeXtext o.envid))) ∧
      (a = [] ∨ (hasExt ext "AUTH" = true ∧ ∃ x, o.auth = some x ∧
        a = (if x.isEmpty then " AUTH=<>".b else " AUTH=".b ++ encodeXtext x))) := by
  obtain ⟨_, ps, hps, rfl⟩ := mailLine_some h
  obtain ⟨b, t, u, d, hb, ht, hu, hd, rfl⟩ := mailParams_gated ext o ps hps
  refine ⟨b, sizeParam ext o, t, u, d, authParam ext o, rfl, bodyParam_gated ext _ b hb, sizeParam_gated ext o,
    requireTLSParam_gated ext o t ht, utf8Param_gated ext o u hu, ?_, authParam_gated ext o⟩
  rcases dsnMailParams_gated ext o d hd with h | ⟨he, r, e, hr, hen, rfl⟩
  · exact Or.inl h
  · exact Or.inr ⟨he, r, e, rfl, retParam_shape o r hr, envidParam_shape o e hen⟩

/-- **C15_unoffered_is_error.**  REQUIRETLS or SMTPUTF8 requested but not offered: a local error, nothing written. -/
theorem C15_unoffered_is_error (ext : List (Bytes × Bytes)) (a : Bytes) (o : MailOptions)
    (h : (o.requireTLS = true ∧ hasExt ext "REQUIRETLS" = false) ∨ (o.utf8 = true ∧ hasExt ext "SMTPUTF8" = false)) :
    mailLine ext a (some o) = none := by
  -- a line would carry the piece asked for, which needs the extension (`C15_mail_params_gated`)
  cases hm : mailLine ext a (some o) with
  | none => rfl
  | some l =>
    obtain ⟨_, _, _, _, _, _, _, _, _, ht, hu, _⟩ := C15_mail_params_gated ext a o l hm
    rcases h with ⟨h1, h2⟩ | ⟨h1, h2⟩
    · rcases ht with ⟨_, h3⟩ | ⟨h3, _⟩
      · exact nomatch h1.symm.trans h3
      · exact nomatch h3.symm.trans h2
    · rcases hu with ⟨_, h3⟩ | ⟨h3, _⟩
      · exact nomatch h1.symm.trans h3
      · exact nomatch h3.symm.trans h2

/-- without options only BODY= may follow the address, and only when 8BITMIME was offered -/
theorem C15_mail_default_gated (ext : List (Bytes × Bytes)) (frm : Bytes) (l : Bytes) (h : mailLine ext frm none = some l) :
    l = "MAIL FROM:<".b ++ frm ++ ">".b ∨ (hasExt ext "8BITMIME" = true ∧ l = "MAIL FROM:<".b ++ frm ++ ">".b ++ " BODY=8BITMIME".b) := by
  obtain ⟨_, ps, hps, rfl⟩ := mailLine_some h
  rw [mailParams_none, bodyParam_none] at hps
  cases hps
  rcases gate (hasExt ext "8BITMIME") " BODY=8BITMIME".b with e | ⟨he, e⟩ <;> rw [e]
  · exact .inl (List.append_nil _)
  · exact .inr ⟨he, rfl⟩

/-- **C15_mail_one_line.**  Whatever sender and options are given, the MAIL line that is written contains
    neither CR nor LF: no argument value can introduce a second line. -/
theorem C15_mail_one_line (ext : List (Bytes × Bytes)) (frm : Bytes) (o : Option MailOptions) (l : Bytes)
    (h : mailLine ext frm o = some l) : NoNL l := by
  -- the address was checked; each piece is one of the shapes the gated theorems list: a literal, a number, xtext
  have h0 : NoNL ("MAIL FROM:<".b ++ frm ++ ">".b) :=
    NoNL_append.mpr ⟨NoNL_append.mpr ⟨by decide +kernel, validLine_NoNL frm (mailLine_some h).1⟩, by decide +kernel⟩
  -- a piece that is a literal is put in by `rw`: as an `rfl` pattern it would have `subst` evaluate the literal
  cases o with
  | none =>
    rcases C15_mail_default_gated ext frm l h with e | ⟨_, e⟩ <;> rw [e]
    · exact h0
    · exact NoNL_append.mpr ⟨h0, by decide +kernel⟩
  | some o =>
    obtain ⟨b, s, t, u, d, a, e, hb, hs, ht, hu, hd, ha⟩ := C15_mail_params_gated ext frm o l h
    rw [e]
    refine NoNL_append.mpr ⟨h0, NoNL_append.mpr ⟨NoNL_append.mpr ⟨NoNL_append.mpr ⟨NoNL_append.mpr ⟨NoNL_append.mpr ⟨?_, ?_⟩, ?_⟩, ?_⟩, ?_⟩, ?_⟩⟩
    · rcases hb with e | ⟨_, e | e⟩ | ⟨_, e⟩ <;> rw [e] <;> decide +kernel
    · rcases hs with rfl | ⟨_, e⟩
      · exact NoNL_nil
      · rw [e]; exact NoNL_append.mpr ⟨by decide +kernel, intToDec_NoNL _⟩
    · rcases ht with ⟨e, _⟩ | ⟨_, _, e⟩ <;> rw [e] <;> decide +kernel
    · rcases hu with ⟨e, _⟩ | ⟨_, _, e⟩ <;> rw [e] <;> decide +kernel
    · rcases hd with rfl | ⟨_, r, e, rfl, hr, he⟩
      · exact NoNL_nil
      · refine NoNL_append.mpr ⟨?_, ?_⟩
        · rcases hr with e | e | e <;> rw [e] <;> decide +kernel
        · rcases he with rfl | e
          · exact NoNL_nil
          · rw [e]; exact NoNL_append.mpr ⟨by decide +kernel, encodeXtext_NoNL _⟩
    · rcases ha with rfl | ⟨_, x, _, e⟩
      · exact NoNL_nil
      · rw [e]
        split
        · decide +kernel
        · exact NoNL_append.mpr ⟨by decide +kernel, encodeXtext_NoNL _⟩

theorem notifyParam_NoNL (o p) (h : notifyParam o = some p) : NoNL p := by
  rcases notifyParam_shape o p h with e | ⟨hok, e⟩ <;> rw [e]
  · exact NoNL_nil
  · exact NoNL_append.mpr ⟨by decide +kernel, forall_mem_intercalate (by decide) (notifyOk_words hok (by decide +kernel)).2⟩

theorem orcptParam_NoNL (ext o p) (h : orcptParam ext o = some p) : NoNL p := by
  rcases orcptParam_shape ext o p h with e | e | e <;> rw [e]
  · exact NoNL_nil
  · exact NoNL_append.mpr ⟨by decide +kernel, encodeXtext_NoNL _⟩
  · refine NoNL_append.mpr ⟨by decide +kernel, ?_⟩
    split
    · exact encodeUTF8AddrUnitext_NoNL _
    · exact encodeUTF8AddrXtext_NoNL _

theorem rrvsParam_NoNL (ext o) : NoNL (rrvsParam ext o) := by
  rcases rrvsParam_gated ext o with h | ⟨_, t, _, h⟩ <;> rw [h]
  · exact NoNL_nil
  · exact NoNL_append.mpr ⟨by decide +kernel, formatRFC3339_NoNL _ _⟩

/-- **C15_rcpt_one_line.**  The same for RCPT: recipient, NOTIFY, ORCPT of either type (through all three
    encoders) and the RRVS time. -/
theorem C15_rcpt_one_line (ext : List (Bytes × Bytes)) (to : Bytes) (o : Option RcptOptions) (l : Bytes)
    (h : rcptLine ext to o = some l) : NoNL l := by
  obtain ⟨hv, h⟩ := rcptLine_some h
  have h0 : NoNL ("RCPT TO:<".b ++ to ++ ">".b) :=
    NoNL_append.mpr ⟨NoNL_append.mpr ⟨by decide +kernel, validLine_NoNL to hv⟩, by decide +kernel⟩
  rcases h with ⟨_, rfl⟩ | ⟨o', ps, _, hps, rfl⟩
  · exact h0
  · obtain ⟨n, oc, rfl, hg⟩ := rcptParams_gated ext o' ps hps
    refine NoNL_append.mpr ⟨h0, NoNL_append.mpr ⟨NoNL_append.mpr ⟨?_, ?_⟩, rrvsParam_NoNL ext o'⟩⟩
    · rcases hg with ⟨rfl, _⟩ | ⟨_, hn, _⟩
      · exact NoNL_nil
      · exact notifyParam_NoNL o' n hn
    · rcases hg with ⟨_, rfl⟩ | ⟨_, _, hoc⟩
      · exact NoNL_nil
      · exact orcptParam_NoNL ext o' oc hoc

/-- **C15_rcpt_params_gated.**  The RCPT line: NOTIFY= and ORCPT= only when DSN was offered, RRVS= only when RRVS was. -/
theorem C15_rcpt_params_gated (ext : List (Bytes × Bytes)) (to : Bytes) (o : RcptOptions) (l : Bytes)
    (h : rcptLine ext to (some o) = some l) :
    ∃ n oc rv : Bytes, l = "RCPT TO:<".b ++ to ++ ">".b ++ (n ++ oc ++ rv) ∧
      ((n = [] ∧ oc = []) ∨ (hasExt ext "DSN" = true ∧ notifyParam o = some n ∧ orcptParam ext o = some oc)) ∧
      (rv = [] ∨ (hasExt ext "RRVS" = true ∧ ∃ t, o.rrvs = some t ∧ rv = " RRVS=".b ++ formatRFC3339 t.1 t.2)) := by
  obtain ⟨_, ⟨h, _⟩ | ⟨o', ps, ho, hps, rfl⟩⟩ := rcptLine_some h
  · cases h
  · cases ho
    obtain ⟨n, oc, rfl, hg⟩ := rcptParams_gated ext o ps hps
    exact ⟨n, oc, rrvsParam ext o, rfl, hg, rrvsParam_gated ext o⟩

/-- **C15_no_ext_no_params.**  When the server's latest EHLO reply offered nothing, nothing but the address is
    sent (or the call fails locally): no parameter is ever sent for an extension that was not offered. -/
theorem C15_no_ext_no_params (a : Bytes) :
    (∀ o l, mailLine [] a o = some l → l = "MAIL FROM:<".b ++ a ++ ">".b) ∧
    (∀ o l, rcptLine [] a o = some l → l = "RCPT TO:<".b ++ a ++ ">".b) := by
  have he : ∀ k, hasExt [] k = false := fun _ => rfl
  constructor
  · intro o l h
    cases o with
    | none => rcases C15_mail_default_gated [] a l h with h | ⟨h, _⟩; exact h; simp [he] at h
    | some o =>
      obtain ⟨b, s, t, u, d, x, e, hb, hs, ht, hu, hd, hx⟩ := C15_mail_params_gated [] a o l h
      simp only [he, Bool.false_eq_true, false_and, or_false] at hb hs ht hu hd hx
      simp [e, hb, hs, ht.1, hu.1, hd, hx]
  · intro o l h
    cases o with
    | none => obtain ⟨_, ⟨_, h⟩ | ⟨_, _, h, _⟩⟩ := rcptLine_some h; exact h.symm; cases h
    | some o =>
      obtain ⟨n, oc, rv, e, hn, hr⟩ := C15_rcpt_params_gated [] a o l h
      simp only [he, Bool.false_eq_true, false_and, or_false] at hn hr
      simp [e, hn.1, hn.2, hr]

/-! ### non-vacuity: a hostile ORCPT with CR LF and a command behind it, DSN and SMTPUTF8 offered -/

example : rcptLine [("DSN".b, []), ("SMTPUTF8".b, [])] "r@x".b
    (some { orcptType := "UTF-8".b, orcpt := "o@x\r\nRSET\r\nMAIL FROM:<evil@x>".b }) =
    some "RCPT TO:<r@x> ORCPT=UTF-8;o@x\\x{0D}\\x{0A}RSET\\x{0D}\\x{0A}MAIL\\x{20}FROM:<evil@x>".b := by
  decide +kernel

example : mailLine [("DSN".b, [])] "s@x".b (some { envid := "a\nb".b }) = none := by decide +kernel

end SmtpV.Props.C15
