import SmtpV.Proofs.ReplyRT
/-!
# C17 — backend errors reach the peer and the client with code, class and text intact

Model level: `Reply.render`/`renderError`/`dataStatus` (conn.go: writeResponse, writeError,
dataErrorToStatus) composed with `Client.readResponse` + `toSMTPErr` (client.go).  Tied to the code by
the `reply`, `tosmtperr`, `rt` and `e2e` probes.  The theorems below cover every reply code 100–999,
every enhanced code of non-negative int64 numbers and EVERY message text, one line or many
(`C17_roundtrip`).  What the theorems do not cover: a reply without any enhanced code on the wire
(`NoEnhancedCode`, or an unset code on a reply of class 3), which the client cannot tell from one that
carries a code when its text looks like one — decided by the law judge on the probes.
-/
namespace SmtpV.Props.C17
open SmtpV SmtpV.Text SmtpV.Spec SmtpV.Reply SmtpV.Client SmtpV.ReplyRT

/-- what `writeResponse` writes for a text is exactly its lines as `wireLines` gives them, each followed by CRLF -/
theorem render_lines (code : Nat) (enh : Enh) (msg : Bytes) (he : EnhOk (effEnh code enh)) :
    render code enh [msg] = (wireLines code (effEnh code enh) (splitByte msg 10)).flatMap (· ++ crlf) := by
  rw [render_wire code enh [msg] he, textLines_single]

theorem render_single (code : Nat) (enh : Enh) (msg : Bytes) (hm : ∀ b ∈ msg, b ≠ 10) (he : EnhOk (effEnh code enh)) :
    render code enh [msg] = wireLine code (effEnh code enh) msg ++ crlf := by
  rw [render_lines code enh msg he, splitByte_noSep msg 10 hm, wireLines_single]
  simp

/-- the round trip for any list of texts (`writeResponse(code, enh, text...)`) -/
theorem roundtrip_texts (expect code : Nat) (h1 : 100 ≤ code) (h2 : code ≤ 999) (enh : Enh) (texts : List Bytes)
    (he : EnhOk (effEnh code enh)) (hx : codeMatches expect code = false) (rest : List Bytes) :
    readResponse expect (wireLines code (effEnh code enh) (textLines texts) ++ rest) =
      (.smtpErr { code := code, enh := effEnh code enh, msg := List.intercalate [LF] texts }, rest) := by
  obtain ⟨hne, hno, hjoin⟩ := splitByte_spec (List.intercalate [LF] texts) LF
  unfold textLines
  rw [← List.dropLast_concat_getLast hne] at hjoin hno ⊢
  rw [wireLines_concat, List.append_assoc, List.singleton_append, readResponse_wire expect code h1 h2,
    toSMTPErr_wire code _ he _ (by simp) hno, show ([10] : Bytes) = [LF] from rfl, hjoin]
  simp [hx]

/-- **C17_roundtrip.**  For EVERY message text — one line or many, empty lines, lines that themselves start with
    something that looks like an enhanced code — a backend `SMTPError{code, enh, msg}` rendered by the server
    (the enhanced code on every line) is turned back by the client into an equal SMTPError. -/
theorem C17_roundtrip (expect code : Nat) (h1 : 100 ≤ code) (h2 : code ≤ 999) (enh : Enh) (msg : Bytes)
    (he : EnhOk (effEnh code enh)) (hx : codeMatches expect code = false) (rest : List Bytes) :
    readResponse expect (wireLines code (effEnh code enh) (splitByte msg 10) ++ rest) =
      (.smtpErr { code := code, enh := effEnh code enh, msg := msg }, rest) := by
  simpa [textLines_single, List.intercalate, List.intersperse, LF] using roundtrip_texts expect code h1 h2 enh [msg] he hx rest

/-- **C17_roundtrip_single.**  A backend `SMTPError{code, enh, msg}` with a one-line message, rendered by the
    server and read by the client (which expected another code), comes back as an equal SMTPError — with the
    enhanced code the server actually sent (`X.0.0` of the reply's class when unset). -/
theorem C17_roundtrip_single (expect code : Nat) (h1 : 100 ≤ code) (h2 : code ≤ 999) (enh : Enh) (msg : Bytes)
    (hm : ∀ b ∈ msg, b ≠ 10) (he : EnhOk (effEnh code enh)) (hx : codeMatches expect code = false) (rest : List Bytes) :
    render code enh [msg] = wireLine code (effEnh code enh) msg ++ crlf ∧
    readResponse expect (wireLine code (effEnh code enh) msg :: rest) =
      (.smtpErr { code := code, enh := effEnh code enh, msg := msg }, rest) := by
  have := C17_roundtrip expect code h1 h2 enh msg he hx rest
  rw [splitByte_noSep msg 10 hm, wireLines_single] at this
  exact ⟨render_single code enh msg hm he, this⟩

/-- **C17_unset_class.**  An unset enhanced code goes out as `X.0.0` of the reply's class. -/
theorem C17_unset_class (code : Nat) (h : code / 100 = 2 ∨ code / 100 = 4 ∨ code / 100 = 5) :
    effEnh code notSet = ⟨(code / 100 : Nat), 0, 0⟩ ∧ EnhOk (effEnh code notSet) := by
  unfold effEnh
  rcases h with h | h | h <;> rw [h] <;> exact ⟨rfl, by unfold EnhOk; decide⟩

/-- **C17_generic_envelope.**  Any other error from session creation, Mail or Rcpt: `451 4.0.0 <text>`. -/
theorem C17_generic_envelope (expect : Nat) (m : Bytes) (hm : ∀ b ∈ m, b ≠ 10) (hx : codeMatches expect 451 = false) :
    renderError 451 ⟨4, 0, 0⟩ (.er m) = wireLine 451 ⟨4, 0, 0⟩ m ++ crlf ∧
    readResponse expect [wireLine 451 ⟨4, 0, 0⟩ m] = (.smtpErr { code := 451, enh := ⟨4, 0, 0⟩, msg := m }, []) :=
  C17_roundtrip_single expect 451 (by decide) (by decide) ⟨4, 0, 0⟩ m hm (by unfold EnhOk; decide) hx []

/-- **C17_generic_data.**  Any other error from Data: `554 5.0.0 Error: transaction failed: <text>`. -/
theorem C17_generic_data (expect : Nat) (m : Bytes) (hm : ∀ b ∈ m, b ≠ 10) (hx : codeMatches expect 554 = false) :
    dataStatus (.er m) = (554, ⟨5, 0, 0⟩, "Error: transaction failed: ".b ++ m) ∧
    readResponse expect [wireLine 554 ⟨5, 0, 0⟩ ("Error: transaction failed: ".b ++ m)] =
      (.smtpErr { code := 554, enh := ⟨5, 0, 0⟩, msg := "Error: transaction failed: ".b ++ m }, []) := by
  have hm' : ∀ b ∈ "Error: transaction failed: ".b ++ m, b ≠ 10 := by
    intro b hb
    rcases List.mem_append.mp hb with h | h
    · have : ("Error: transaction failed: ".b).all (fun b => b != 10) = true := by decide +kernel
      exact bne_iff_ne.mp (List.all_eq_true.mp this b h)
    · exact hm b h
  exact ⟨rfl, (C17_roundtrip_single expect 554 (by decide) (by decide) ⟨5, 0, 0⟩ _ hm' (by unfold EnhOk; decide) hx []).2⟩

/-! ### non-vacuity -/

example : render 550 notSet ["no such user".b] = "550 5.0.0 no such user\r\n".b := by decide +kernel
example : readResponse 250 ["550 5.0.0 no such user".b] =
    (.smtpErr { code := 550, enh := ⟨5, 0, 0⟩, msg := "no such user".b }, []) := by decide +kernel
/-- a reply of two lines through the same definitions -/
example : (readResponse 250 ["554-5.6.0 first".b, "554 5.6.0 second".b]).1 =
    .smtpErr { code := 554, enh := ⟨5, 6, 0⟩, msg := "first\nsecond".b } := by decide +kernel

end SmtpV.Props.C17
