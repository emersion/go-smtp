import SmtpV.Props.C20
import SmtpV.Proofs.ReplyWF
import SmtpV.Proofs.ReplyCount
/-!
# C04 — one well-formed reply per command, reporting that command's outcome

Clause (d), "never the outcome of an earlier or aborted transaction", for chunked transfers is the
L3 theorem below (proved in Props/C20.lean for every program and every schedule).  Clauses (a)–(c)
(syntax, count/order, enhanced-code class) are judged by `Spec.Mon.check4` on recorded traces and
tied by the correspondence; for the syntax and the class of replies see `C04_reply_syntax` below, for the count
`C04_one_reply_per_command` and the theorems after it (the walk through the handlers is `nw_dispatch_any`, `Proofs/ReplyCount.lean`).
-/
namespace SmtpV.Props.C04
open SmtpV SmtpV.Chunked

/-- **C04_own_verdict.**  For every sequence of transfers (opened, aborted, completed) and every
    interleaving of the command loop with the delivery goroutines, the verdict sent to the client for
    a transfer is the backend's verdict for that very transfer. -/
theorem C04_own_verdict (res : Nat → Nat) (prog : List Op) (sched : List Nat) :
    OwnVerdict res (exec false res (Chunked.init prog) sched) :=
  SmtpV.Props.C20.own_verdict_all_schedules res prog sched

open SmtpV.Spec SmtpV.Reply SmtpV.ReplyRT in
/-- **C04_reply_syntax.**  Whatever one-line reply the server's renderer writes — any code 100..999, any enhanced code
    (set, or derived from the code when unset), any text without LF: the strict RFC 5321 recogniser that judges the
    implementation accepts it as exactly one reply with that code, and the enhanced status code it reads off the line is
    the one rendered — for an unset code that is `class.0.0` of the reply's own class (`C17_unset_class`). -/
theorem C04_reply_syntax (code : Nat) (h1 : 100 ≤ code) (h2 : code ≤ 999) (enh : Enh) (msg : Bytes)
    (hm : ∀ b ∈ msg, b ≠ 10) (he : EnhOk (effEnh code enh)) :
    ReplySyntax.parse (render code enh [msg]) =
      some [{ code := code, lines := [enhBytes (effEnh code enh) ++ [32] ++ msg] }] ∧
    ReplySyntax.enhOf (enhBytes (effEnh code enh) ++ [32] ++ msg) =
      some ((effEnh code enh).a.toNat, (effEnh code enh).b.toNat, (effEnh code enh).c.toNat) := by
  refine ⟨?_, enhOf_render _ he msg⟩
  simpa [textLines_single, SmtpV.Text.splitByte_noSep msg 10 hm, tok] using
    reply_syntax_texts code h1 h2 enh [msg] he

open SmtpV.Spec SmtpV.Reply SmtpV.ReplyRT SmtpV.Text in
/-- **C04_reply_syntax_multiline.**  The same for a text of any number of lines (empty lines, lines that look like codes …):
    what the renderer writes is accepted by the strict recogniser as exactly one reply with that code — every line but the last
    a continuation line — whose lines are the text lines, each behind the enhanced status code. -/
theorem C04_reply_syntax_multiline (code : Nat) (h1 : 100 ≤ code) (h2 : code ≤ 999) (enh : Enh) (msg : Bytes)
    (he : EnhOk (effEnh code enh)) :
    ReplySyntax.parse (render code enh [msg]) =
      some [{ code := code, lines := (splitByte msg 10).map (fun l => tok (effEnh code enh) ++ l) }] := by
  simpa [textLines_single] using reply_syntax_texts code h1 h2 enh [msg] he

open SmtpV.Server in
/-- **C04_one_reply_per_command.**  Plain SMTP, on the server model: a command other than AUTH/STARTTLS (which have
    intermediate replies of their own) — HELO/EHLO, MAIL, RCPT, VRFY, NOOP, RSET, QUIT, BDAT, DATA and the unimplemented
    verbs, with any arguments, in any state, whatever the backend does (refusals, errors, panics, early returns) and
    however a chunk arrives or fails to arrive — is answered with exactly ONE write on the socket; an accepted DATA with
    two (354 and the final reply).  The 421 written by `recover` for a handler that panicked is that one reply. -/
theorem C04_one_reply_per_command (s : S) (cmd arg : Bytes) (hl : s.cfg.lmtp = false)
    (hv : verbOf cmd ≠ .auth ∧ verbOf cmd ≠ .starttls ∧ verbOf cmd ≠ .unknown) :
    nw (dispatch s cmd arg) = nw s + (if verbOf cmd = .data ∧ dataAccepted s arg = true then 2 else 1) := by
  have hf : finalReplies s = 1 := by simp [finalReplies, hl]
  rcases nw_dispatch_any s cmd arg hv with ⟨_, h1, h⟩ | ⟨h1, last, h⟩ | ⟨h1, h | ⟨h2, h⟩⟩
  · simp [h, h1]
  · have : chunkReplies s last = 1 := by cases last <;> simp [chunkReplies, hf]
    simp [h, h1, this]
  · rw [h, hf]; simp only [h1, true_and]
  · simp [h, h1, h2]

open SmtpV.Server in
/-- **C04_error_reply_and_notice.**  An unrecognised or malformed command gets its one reply, plus the one closing
    notice exactly when the server gives up — and then the connection is closed. -/
theorem C04_error_reply_and_notice (s : S) (code : Nat) (enh : SmtpV.Spec.Enh) (t : String) :
    nw (protocolError s code enh t) = nw s + 1 ∨
    (nw (protocolError s code enh t) = nw s + 2 ∧ (protocolError s code enh t).c.closed = true) :=
  nw_protocolErrorB s code enh t.b

open SmtpV.Server in
/-- **C04_lmtp_one_reply_per_recipient.**  LMTP, on the server model: every command other than AUTH/STARTTLS is answered with
    one write; an accepted LAST chunk — delivered or failed — with one per accepted recipient; an accepted DATA with 354 and then
    one per accepted recipient (or, when a backend without per-recipient statuses panics, 354 and the single 421). -/
theorem C04_lmtp_one_reply_per_recipient (s : S) (cmd arg : Bytes) (hl : s.cfg.lmtp = true)
    (hv : verbOf cmd ≠ .auth ∧ verbOf cmd ≠ .starttls ∧ verbOf cmd ≠ .unknown) :
    nw (dispatch s cmd arg) = nw s + 1 ∨
    (verbOf cmd = .bdat ∧ nw (dispatch s cmd arg) = nw s + s.c.recipients.length) ∨
    (verbOf cmd = .data ∧ (nw (dispatch s cmd arg) = nw s + 1 + s.c.recipients.length ∨ nw (dispatch s cmd arg) = nw s + 2)) := by
  have hf : finalReplies s = s.c.recipients.length := by simp [finalReplies, hl]
  rcases nw_dispatch_any s cmd arg hv with ⟨_, _, h⟩ | ⟨h1, last, h⟩ | ⟨h1, h | ⟨_, h⟩⟩
  · exact .inl h
  · cases last
    · exact .inl h
    · exact .inr (.inl ⟨h1, by rw [h, chunkReplies, hf]; rfl⟩)
  · rw [hf] at h
    split at h
    · exact .inr (.inr ⟨h1, .inl (by rw [h, Nat.add_assoc])⟩)
    · exact .inl h
  · exact .inr (.inr ⟨h1, .inr h⟩)

open SmtpV.Server in
/-- **C04_starttls_replies.**  STARTTLS is answered with one reply when it is refused and with `220` alone when the handshake
    succeeds (everything after it travels inside TLS); when the handshake fails one more reply (550) follows in plaintext. -/
theorem C04_starttls_replies (s : S) :
    nw (handleStartTLS s) = nw s + 1 ∨ nw (handleStartTLS s) = nw s + 2 := by
  by_cases hr : s.c.tls = true ∨ s.cfg.tlsAvail = false
  · obtain ⟨_, he⟩ := handleStartTLS_refused s hr
    left; rw [he]; simp
  · obtain ⟨s1, hw, he⟩ := handleStartTLS_accepted s (eq_false_of_ne_true fun ht => hr (.inl ht)) (eq_true_of_ne_false fun ha => hr (.inr ha))
    rw [he]
    split
    · left; simp [isW, (popHs_popped _).nw, hw.nw]
    · right; simp [isW, (popHs_popped _).nw, hw.nw]

open SmtpV.Server in
/-- **C04_auth_replies.**  AUTH: a refused command (or a mechanism that refuses to start, or a panic) gets one reply; an exchange gets
    one reply per step of the mechanism — each 334 challenge, then the final 235 or the mechanism's error — plus one when the client
    cancels with `*` or sends something that is not base64 (501 / 454).  `sc` counts the mechanism's steps in the trace. -/
theorem C04_auth_replies (s : S) (arg : Bytes) :
    (owed (handleAuth s arg) = nw s + 1 ∧ sc (handleAuth s arg).1 = sc s) ∨
    (∃ e, e ≤ 1 ∧ owed (handleAuth s arg) = nw s + (sc (handleAuth s arg).1 - sc s) + e ∧ sc s < sc (handleAuth s arg).1) := by
  rcases handleAuth_cases s arg with ⟨_, he⟩ | ⟨_, _, he⟩ | ⟨id, mech, ir, _, _, _, _, _, he⟩ <;> rw [he]
  · left; simp
  · left; simp
  · unfold authCall
    dsimp only
    have h1 : nw (emit (popAuth s).2 (.authMech id mech (popAuth s).1)) = nw s := by simp [isW, (popAuth_popped s).nw]
    have h2 : sc (emit (popAuth s).2 (.authMech id mech (popAuth s).1)) = sc s := by simp [isSasl, (popAuth_popped s).sc]
    split
    · right
      obtain ⟨k, e, he, hk, hsc, heq⟩ := owed_saslLoop _ (emit (popAuth s).2 (.authMech id mech (popAuth s).1)) ir
      rw [h2] at hsc
      exact ⟨e, he, by rw [heq, h1, hsc, Nat.add_sub_cancel_left], by rw [hsc]; exact Nat.lt_add_of_pos_right (hk (Nat.succ_pos _))⟩
    · left; simp [h1, h2]
    · left; simp [h1, h2]

end SmtpV.Props.C04
