import SmtpV.Proofs.WireFacts
import SmtpV.Proofs.HandlerCases
/-!
# C19 — hostile input is bounded (line-length limiter)

Proved here: the counting rule of `lineLimitReader.Read` never trips on input whose lines are within
the maximum — for every way the network cuts the stream into reads — and does trip on a line that is
more than one octet longer, also after the limit has come back behind a BDAT chunk; on the server model,
the fourth protocol error closes the connection, `readLine` on a tripped limiter reports an error, and
every line handed out is within the limit in force.  The remaining clauses (no recovered panic, nothing of an
over-long line reaches the backend) are judged by `Spec.Mon.check19` on hostile conversations and tied
by the correspondence with the server model; they have no theorem.
-/
namespace SmtpV.Props.C19
open SmtpV SmtpV.Wire

theorem countLoop_append (limit cur : Nat) (a b : Bytes) :
    countLoop limit cur (a ++ b) =
      (if (countLoop limit cur a).2 then countLoop limit cur a else countLoop limit (countLoop limit cur a).1 b) := by
  induction a generalizing cur with
  | nil => simp [countLoop]
  | cons x a ih =>
    simp only [List.cons_append, countLoop]
    by_cases h : bump cur x > limit
    · simp [h]
    · simp only [h, if_false]; exact ih _

theorem bump_nonLF (cur : Nat) (b : Byte) (h : b ≠ LF) : bump cur b = cur + 1 := by
  simp [bump, h]

theorem bump_LF (cur : Nat) : bump cur LF = 1 := rfl

theorem countLoop_noLF (limit : Nat) (content rest : Bytes) (cur : Nat) (hno : ∀ b ∈ content, b ≠ LF) (hc : cur ≤ limit) :
    countLoop limit cur (content ++ rest) =
      if cur + content.length ≤ limit then countLoop limit (cur + content.length) rest else (limit + 1, true) := by
  induction content generalizing cur with
  | nil => exact (if_pos hc).symm
  | cons b t ih =>
    simp only [List.cons_append, countLoop, bump_nonLF cur b (hno b List.mem_cons_self), List.length_cons]
    by_cases h : cur + 1 > limit
    · rw [if_pos h, if_neg (Nat.not_le.mpr (Nat.lt_of_lt_of_le h (Nat.add_le_add_left (Nat.le_add_left 1 _) cur))),
        Nat.le_antisymm hc (Nat.le_of_lt_succ h)]
    · rw [if_neg h, ih (cur + 1) (fun x hx => hno x (List.mem_cons_of_mem _ hx)) (Nat.le_of_not_gt h), Nat.add_right_comm]
      rfl

theorem countLoop_content (limit cur : Nat) (content : Bytes) (hno : ∀ b ∈ content, b ≠ LF)
    (h : cur + content.length ≤ limit) : countLoop limit cur content = (cur + content.length, false) := by
  have := countLoop_noLF limit content [] cur hno (Nat.le_trans (Nat.le_add_right _ _) h)
  rwa [List.append_nil, if_pos h] at this

/-- after each line the counter is 1 -/
theorem countLoop_lines (limit : Nat) (lines : List Bytes) (cur : Nat) (hc : cur ≤ 1)
    (h : ∀ l ∈ lines, (∀ b ∈ l, b ≠ LF) ∧ l.length + 1 ≤ limit) :
    (countLoop limit cur (lines.flatMap (fun l => l ++ [LF]))).2 = false := by
  induction lines generalizing cur with
  | nil => rfl
  | cons l t ih =>
    obtain ⟨hno, hlen⟩ := h l List.mem_cons_self
    have h1 : 1 ≤ limit := Nat.le_trans (Nat.le_add_left 1 _) hlen
    have hl : cur + l.length ≤ limit := Nat.le_trans (Nat.add_le_add_right hc _) (Nat.add_comm _ _ ▸ hlen)
    rw [List.flatMap_cons, List.append_assoc, countLoop_noLF limit l _ cur hno (Nat.le_trans hc h1), if_pos hl]
    simp only [List.singleton_append, countLoop, bump_LF, Nat.not_lt.mpr h1, if_false]
    exact ih 1 (Nat.le_refl _) (fun x hx => h x (List.mem_cons_of_mem _ hx))

/-- the limiter's state over successive raw reads (`chunks`): final counter and whether it tripped -/
def feed (limit : Nat) : Nat → List Bytes → Nat × Bool
  | cur, [] => (cur, false)
  | cur, c :: t =>
    match countLoop limit cur c with
    | (c', true) => (c', true)
    | (c', false) => feed limit c' t

theorem feed_flatten (limit cur : Nat) (chunks : List Bytes) :
    (feed limit cur chunks).2 = (countLoop limit cur chunks.flatten).2 := by
  induction chunks generalizing cur with
  | nil => simp [feed, countLoop]
  | cons c t ih =>
    simp only [feed, List.flatten_cons]
    rw [countLoop_append]
    cases hc : countLoop limit cur c with
    | mk c' trip =>
      cases trip
      · simp [ih]
      · simp

/-- **C19_short_lines_ok.**  Input all of whose lines (LF included) are within the maximum is never
    refused for its length, however the network segments it. -/
theorem C19_short_lines_ok (limit : Nat) (lines : List Bytes) (chunks : List Bytes)
    (hseg : chunks.flatten = lines.flatMap (fun l => l ++ [LF]))
    (h : ∀ l ∈ lines, (∀ b ∈ l, b ≠ LF) ∧ l.length + 1 ≤ limit) :
    (feed limit 0 chunks).2 = false := by
  rw [feed_flatten, hseg]
  exact countLoop_lines limit lines 0 (Nat.zero_le 1) h

/-- **C19_long_line_trips.**  A line whose content (no LF inside) takes the counter beyond the maximum
    trips the limiter before the end of the line is seen — so a line more than one octet longer than the
    maximum (CRLF included) is refused wherever it starts (the counter is at most 1 at a line start). -/
theorem C19_long_line_trips (limit : Nat) (content rest : Bytes) (cur : Nat) (hno : ∀ b ∈ content, b ≠ LF)
    (hc : cur ≤ limit) (hlen : cur + content.length > limit) : (countLoop limit cur (content ++ rest)).2 = true := by
  rw [countLoop_noLF limit content rest cur hno hc, if_neg (Nat.not_le.mpr hlen)]

/-- in numbers: a line of `n ≥ limit + 2` octets (CRLF included) has `n - 1 ≥ limit + 1` octets before its
    LF, which is more than the limiter tolerates from any line start -/
theorem C19_long_line_refused (limit : Nat) (line rest : Bytes) (cur : Nat) (hcur : cur ≤ 1) (hl : 1 ≤ limit)
    (hno : ∀ b ∈ line, b ≠ LF) (hlen : limit + 1 ≤ line.length) :
    (countLoop limit cur (line ++ [LF] ++ rest)).2 = true := by
  rw [List.append_assoc]
  exact C19_long_line_trips limit line _ cur hno (Nat.le_trans hcur hl) (Nat.lt_of_lt_of_le hlen (Nat.le_add_left _ _))

example : (feed 8 0 ["NOO".b, "P\nRS".b, "ET\n".b]).2 = false := by decide +kernel
example : (feed 8 0 ["NOOPNOOP".b, "X\n".b]).2 = true := by decide +kernel

/-! ### the limit coming back after a BDAT chunk (`lineLimitReader.resume`, repaired in ebe7440 and 9f1d982) -/

theorem resume_pos (w : W) {limit : Nat} (hl : 0 < limit) (pending : Bytes) :
    resume w limit pending = { w with limit := limit, cur := (countLoop limit 0 pending).1,
                                      tripped := w.tripped || (countLoop limit 0 pending).2 } := by
  have hne : (limit == 0) = false := beq_false_of_ne (Nat.ne_of_gt hl)
  simp only [resume, hne, Bool.false_eq_true, if_false]

/-- **C19_resume_short_ok.**  When the limit is put back after a chunk, whatever the limiter had counted before and during the
    chunk is forgotten: if the octets counted at that moment (`pending`; the server passes none since the length check in `readLine`) together
    with what is read afterwards — in any segmentation — consist of lines within the maximum, nothing is refused for its length.
    (Before the repair a stale count of payload octets made the limiter refuse short commands.) -/
theorem C19_resume_short_ok (w : W) (limit : Nat) (hl : 0 < limit) (pending : Bytes) (lines chunks : List Bytes)
    (hseg : pending ++ chunks.flatten = lines.flatMap (fun l => l ++ [LF]))
    (h : ∀ l ∈ lines, (∀ b ∈ l, b ≠ LF) ∧ l.length + 1 ≤ limit) (ht : w.tripped = false) :
    (resume w limit pending).tripped = false ∧ (feed limit (resume w limit pending).cur chunks).2 = false := by
  have hall := countLoop_lines limit lines 0 (Nat.zero_le 1) h
  rw [← hseg, countLoop_append] at hall
  rw [resume_pos w hl, feed_flatten]
  cases hc : (countLoop limit 0 pending).2 with
  | true => simp [hc] at hall
  | false => simpa [hc, ht] using hall

/-- **C19_resume_counts_pending.**  The beginning of a command line that was read together with the end of a chunk counts: if
    the pending octets (no LF) and the octets of the same line that arrive next exceed the maximum, the limiter trips — at once,
    or in the read that takes the line over the maximum.  (Before the repair these octets were never counted.) -/
theorem C19_resume_counts_pending (w : W) (limit : Nat) (hl : 0 < limit) (pending more rest : Bytes)
    (hno1 : ∀ b ∈ pending, b ≠ LF) (hno2 : ∀ b ∈ more, b ≠ LF) (hlen : pending.length + more.length > limit) :
    (resume w limit pending).tripped = true ∨ (countLoop limit (resume w limit pending).cur (more ++ rest)).2 = true := by
  rw [resume_pos w hl]
  by_cases hb : pending.length ≤ limit
  · right
    rw [countLoop_content limit 0 pending hno1 (by rwa [Nat.zero_add]), Nat.zero_add]
    exact C19_long_line_trips limit more rest pending.length hno2 hb hlen
  · left
    have := C19_long_line_trips limit pending [] 0 hno1 (Nat.zero_le _) (by rw [Nat.zero_add]; exact Nat.lt_of_not_le hb)
    rw [List.append_nil] at this
    simp [this]

example : (resume { cur := 77, limit := 0 } 8 "NOOP\r\nNO".b).tripped = false ∧
    (resume { cur := 77, limit := 0 } 8 "NOOP\r\nNO".b).cur = 3 := by decide +kernel
example : (resume { limit := 0 } 8 "NOOPNOOPX".b).tripped = true := by decide +kernel

open SmtpV.Server in
/-- **C19_error_threshold.**  A protocol error in a connection that has already counted three of them closes the connection
    (after the error's own reply and the closing notice), whatever the error; and an error counted earlier only adds to the
    count. -/
theorem C19_error_threshold (s : S) (code : Nat) (enh : Spec.Enh) (text : String) :
    (s.c.errCount ≥ 3 → (protocolError s code enh text).c.closed = true) ∧
    (s.c.errCount < 3 → s.c.closed = false → (protocolError s code enh text).c.errCount = s.c.errCount + 1) := by
  unfold protocolError
  dsimp only
  have hc : (reply s code enh text).c = s.c := reply_c _ _ _ _
  generalize reply s code enh text = s1 at hc ⊢
  rw [hc]
  constructor
  · intro h
    rw [if_pos (show s.c.errCount + 1 > errThreshold from Nat.lt_succ_of_le h)]
    exact closeConn_closed _
  · intro h _
    rw [if_neg (show ¬ s.c.errCount + 1 > errThreshold from Nat.not_lt.mpr h)]

open SmtpV.Server in
/-- **C19_tripped_ends_commands.**  Once the line limiter has latched, the command loop's next read reports an error: no
    further command is executed on that connection (the loop answers 500 and returns). -/
theorem C19_tripped_ends_commands (w : W) (h : w.tripped = true) : ∃ e, (readLine w).2 = .error e :=
  readLine_tripped w h

/-- **C19_line_handed_out_within_limit.**  Whatever was buffered, and however it got there (read while the limit was lifted for a
    BDAT chunk, behind the payload of a pipelined chunk, behind a DATA body or an answer to a challenge): a line that
    `Conn.readLine` hands to the command loop, or to an AUTH exchange, is within the limit in force — its content and its line feed
    are at most `limit` octets.  The length is checked where the line is handed out, so no rule about what may be buffered is
    needed (the look-ahead of ebe7440/8853bc2/ecdb2ac/ab2fa9c, each of which left a hole, is gone). -/
theorem C19_line_handed_out_within_limit (w : W) (l : Bytes) (h : (readLine w).2 = .ok l) :
    (readLine w).1.limit = 0 ∨ l.length + 1 ≤ (readLine w).1.limit := by
  revert h
  fun_cases readLine w with
  | case1 => nofun
  | case2 => nofun
  | case3 _ w1 _ _ _ hc =>
    intro h
    cases h
    rw [Bool.and_eq_true, decide_eq_true_eq, decide_eq_true_eq] at hc
    exact (Nat.eq_zero_or_pos w1.limit).imp_right fun h0 => Nat.not_lt.mp fun h => hc ⟨h0, h⟩
  | case4 => nofun

/-- a line longer than the limit that sits in the buffer unseen by the raw limiter (limit lifted while it was read) is refused -/
example : (match (readLine { buf := "NOOP xxxxxxxxxxxx\r\nQUIT\r\n".b, limit := 10, tail := .eof }).2 with | .error .tooLong => true | _ => false) = true := by
  decide +kernel
/-- … and one within the limit is handed out -/
example : (match (readLine { buf := "NOOP xxx\r\nQUIT\r\n".b, limit := 10, tail := .eof }).2 with | .ok l => l == "NOOP xxx".b | _ => false) = true := by
  decide +kernel

end SmtpV.Props.C19
