import SmtpV.Props.DataMonitor
import SmtpV.Proofs.WireInv
/-!
# C02 — only `CRLF.CRLF` ends DATA; commands resume exactly after it (reader part)

The reader half is read off the greedy run and the read schedules; the conversation-level half, `C02_resume`, is on the server
and wire model — whatever the backend does, the stream the command loop reads next starts exactly behind the marker.
-/
namespace SmtpV.Props.C02
open SmtpV SmtpV.Spec SmtpV.DataReader

/-- **C02_only_marker.**  The reader's greedy run reaches end-of-data **iff** the stream is
    terminated in the sense of the specification (body lines, then `.CRLF` at a line start). -/
theorem C02_only_marker (s : Bytes) :
    (run .bol s).1 = .eof ↔ ∃ body rest, Terminated s body rest :=
  ⟨fun h => ⟨_, _, run_eof_terminated s _ _ (Prod.ext h rfl)⟩, fun ⟨body, rest, h⟩ => by rw [run_terminated s body rest h]⟩

/-- **C02_eof_means_marker.**  For every input, every limit and every read schedule: if a read
    reports EOF then the input is a terminated stream, what was handed over is exactly its body and
    what is left unread is exactly what follows the marker. -/
theorem C02_eof_means_marker (lim : Option Nat) (s : Bytes) (sizes : List Nat) (x : Bytes × Res)
    (hx : (readSched (freshReader lim) s sizes).1.getLast? = some x) (hxe : x.2 = .eof) :
    Terminated s (outs (readSched (freshReader lim) s sizes).1) (readSched (freshReader lim) s sizes).2.2 :=
  sched_eof_terminated sizes (freshReader lim) s (freshReader_bol lim) x (List.mem_of_getLast? hx) hxe

/-- None of the look-alikes ends a message: a stream that consists of one of them (after some
    text) followed by anything is not terminated unless a real marker follows later.  Stated on
    the recogniser for the four sequences of the property, each followed by a bait command. -/
theorem C02_lookalikes :
    terminated? ("a\n.\nMAIL\r\n".b) = none ∧
    terminated? ("a\n.\r\nMAIL\r\n".b) = none ∧
    terminated? ("a\r\n.\nMAIL\r\n".b) = none ∧
    terminated? ("a\r.\rMAIL\r\n".b) = none ∧
    terminated? ("a\r\n.\r\nMAIL\r\n".b) = some ("a\r\n".b, "MAIL\r\n".b) := by
  decide +kernel

/-- the look-alikes inside a message that does end: they are delivered as data, nothing is cut -/
example : terminated? ("x\n.\ny\n.\r\nz\r\n.\nw\r.\rv\r\n.\r\nNOOP\r\n".b) =
    some ("x\n.\ny\n.\r\nz\r\n\nw\r.\rv\r\n".b, "NOOP\r\n".b) := by decide +kernel

open SmtpV.Server SmtpV.Wire

/-- **C02_resume.**  For every state of the server model in which `DATA` has been accepted, every backend behaviour
    scripted for the delivery (how much it reads, in which read sizes, what it returns, panics), every size limit,
    SMTP, LMTP and LMTP with a per-recipient backend, and every way the connection's octets are cut into network
    segments and already sit in bufio's buffer: when the handler returns, either a panic escapes (`handle` then
    closes the connection), or the connection is closed, or the line limiter has latched, or nothing at all is left
    to read, or the octet stream the handler started on was a terminated message — what the backend was handed is a
    prefix of its unstuffed body — and **what the command loop will read next is exactly what follows the marker**. -/
theorem C02_resume (s : S) (id : Nat) (hwf : WF s.w) :
    (dataSync s id).2 = true ∨ (dataSync s id).1.c.closed = true ∨
    ∃ octets, (dataSync s id).1.w.tripped = true ∨ pending (dataSync s id).1.w = [] ∨
      ∃ tail rest, Terminated (pending s.w) (octets ++ tail) rest ∧ pending (dataSync s id).1.w = rest :=
  dataSync_resume s id hwf

/-- the two escape clauses of `C02_resume` execute no command: once the limiter has latched, and on a stream with
    nothing left, the next `readLine` of the command loop reports an error (and the loop ends the connection) -/
theorem C02_resume_escapes (w : W) (hwf : WF w) (h : w.tripped = true ∨ pending w = []) :
    ∃ e, (readLine w).2 = .error e := by
  rcases h with h | h
  · exact readLine_tripped w h
  · exact readLine_cut w (h ▸ .nil)

/-- the hypothesis of `C02_resume` holds on a fresh wire -/
theorem C02_wf_fresh (w : W) (hne : ∀ x ∈ w.segs, x ≠ []) (he : w.err = none) : WF w :=
  ⟨hne, by rw [he]; intro h; cases h⟩

example : WF ({ segs := ["a\r\n.\r".b, "\nNOOP\r\n".b], limit := 2000 } : W) :=
  C02_wf_fresh _ (by decide) rfl

/-- a connection starts well-formed when the network hands over non-empty segments (on both streams: the one in
    use and the one inside TLS) and no error is latched -/
theorem C02_wf_initial (s : S) (hne : ∀ x ∈ s.w.segs, x ≠ []) (he : s.w.err = none)
    (ht : ∀ t, s.tlsW = some t → ∀ x ∈ t.segs, x ≠ []) : WFS s :=
  ⟨C02_wf_fresh s.w hne he, ht⟩

/-- **C02_wf_invariant.**  Reading a command line, executing any command (every handler: greeting, MAIL, RCPT, DATA,
    BDAT with its chunk copies and discards, AUTH with its SASL lines, STARTTLS with the switch to the TLS stream,
    errors and panics) and the whole connection preserve the well-formedness that `C02_resume` assumes — so the
    resumption theorem applies to the `DATA` command wherever it occurs in a connection. -/
theorem C02_wf_invariant (s : S) (h : WFS s) :
    WFS (connReadLine s).1 ∧ (∀ cmd arg, WFS (handle s cmd arg)) ∧ WFS (serve s) :=
  ⟨wfs_connReadLine s h, fun cmd arg => wfs_closed.handle s cmd arg h, wfs_closed.serve s h⟩

/-- `C02_resume` for a `DATA` command anywhere in a connection: the state needs nothing but the invariant -/
theorem C02_resume_anywhere (s : S) (id : Nat) (h : WFS s) :
    (dataSync s id).2 = true ∨ (dataSync s id).1.c.closed = true ∨
    ∃ octets, (dataSync s id).1.w.tripped = true ∨ pending (dataSync s id).1.w = [] ∨
      ∃ tail rest, Terminated (pending s.w) (octets ++ tail) rest ∧ pending (dataSync s id).1.w = rest :=
  C02_resume s id h.w

end SmtpV.Props.C02
