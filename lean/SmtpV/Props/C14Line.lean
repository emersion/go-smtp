import SmtpV.Proofs.LineTrip
import SmtpV.Proofs.HandlerCases
import SmtpV.Props.C11
/-!
# C14 / C11 — the whole MAIL and RCPT lines, from the client's call to the backend's callback (on the models)

`Client.mailLine` builds the command line from the address and the options; the client writes it followed by CRLF.
The server's command loop hands the line to `parseCmd`, the verb to `dispatch` and the argument to `handleMail`, which decodes
it (`mailDecode`: `cutPrefixFold`, `strings.TrimSpace`, the path parser, `parseArgs`, the parameter switch) and then calls
`Session.Mail`.  The theorems below compose all of that: for every 7-bit dot-string mailbox and every option value of the
domain of `C14_mail_options_trip` the backend's `Mail` is called with exactly the client's address and options; likewise RCPT.
-/
namespace SmtpV.Props.C14
open SmtpV SmtpV.Spec SmtpV.Text SmtpV.Parse SmtpV.Server SmtpV.Props.C11 SmtpV.LineTrip

theorem lit_MAILFROM : "MAIL FROM:<".b = [77, 65, 73, 76, SP] ++ ("FROM:".b ++ [60]) := by decide +kernel
theorem lit_RCPTTO : "RCPT TO:<".b = [82, 67, 80, 84, SP] ++ ("TO:".b ++ [60]) := by decide +kernel
theorem lit_gt : ">".b = [62] := by decide +kernel

theorem equalFold_self (a : Bytes) : equalFold a a = true := beq_iff_eq.mpr rfl

theorem cutPrefixFold_self (p r : Bytes) : cutPrefixFold (p ++ r) p = some r := by
  unfold cutPrefixFold
  simp [equalFold_self]

/-- the argument of the client's MAIL/RCPT line behind the keyword -/
def pathArg (frm ps : Bytes) : Bytes := [60] ++ frm ++ [62] ++ ps

theorem graphic_ascii {s : Bytes} (h : s.all graphic = true) : Ascii s :=
  fun b hb => graphic_lt b (List.all_eq_true.mp h b hb)

theorem pathArg_facts (frm : Bytes) (ts : List Bytes) (hf : Ascii frm) (hts : ∀ t ∈ ts, t ≠ [] ∧ t.all graphic = true) :
    Ascii (pathArg frm (spaced ts)) ∧ (∀ b, (pathArg frm (spaced ts)).getLast? = some b → graphic b = true) := by
  constructor
  · exact (((graphic_ascii (s := [60]) (by decide)).append hf).append (graphic_ascii (s := [62]) (by decide))).append
      (spaced_ascii ts hts)
  · intro b hb
    unfold pathArg at hb
    by_cases hs : spaced ts = []
    · rw [hs, List.append_nil, getLast?_append_ne _ _ (List.cons_ne_nil _ _)] at hb
      cases hb; decide
    · rw [getLast?_append_ne _ _ hs] at hb
      exact spaced_last ts hts b hb

/-- it starts with `<` and ends with `>` or a printing octet -/
theorem trimSpace_pathArg (frm : Bytes) (ts : List Bytes) (hf : Ascii frm) (hts : ∀ t ∈ ts, t ≠ [] ∧ t.all graphic = true) :
    trimSpace (pathArg frm (spaced ts)) = pathArg frm (spaced ts) := by
  obtain ⟨hpa, hpl⟩ := pathArg_facts frm ts hf hts
  exact trimSpace_id _ hpa (fun b t e => by cases e; exact graphic_NoSp 60 rfl) fun b hb => graphic_NoSp b (hpl b hb)

theorem parseCmd_pathArg (v0 v1 v2 v3 : Byte) (kw frm : Bytes) (ts : List Bytes)
    (hv : [v0, v1, v2, v3].all keyByte = true)
    (hns : (if (97 ≤ v0.toNat && v0.toNat ≤ 122) = true then v0 - 32 else v0) ≠ 83)
    (hkw : kw ≠ [] ∧ kw.all graphic = true) (hf : Ascii frm) (hts : ∀ t ∈ ts, t ≠ [] ∧ t.all graphic = true) :
    parseCmd ([v0, v1, v2, v3, SP] ++ (kw ++ pathArg frm (spaced ts)) ++ [CR, LF]) =
      some ([v0, v1, v2, v3], kw ++ pathArg frm (spaced ts)) := by
  obtain ⟨hpa, hpl⟩ := pathArg_facts frm ts hf hts
  obtain ⟨k, kw', rfl⟩ := List.exists_cons_of_ne_nil hkw.1
  -- the argument starts with the keyword's first octet and ends as the path argument does
  refine parseCmd_verb v0 v1 v2 v3 _ (toUpper_key _ hv) (graphic_ascii (graphic_of_class keyByte_graphic hv)) hns
    ((graphic_ascii hkw.2).append hpa) (List.cons_ne_nil _ _)
    (fun b t e => by cases e; exact graphic_NoSp k (List.all_eq_true.mp hkw.2 k List.mem_cons_self)) fun b hb => ?_
  rw [getLast?_append_ne _ (pathArg frm _) (List.cons_ne_nil 60 _)] at hb
  exact hpl b hb

theorem parsePath_pathArg {frm : Bytes} (h : plainMailbox frm) (ps : Bytes) : parsePath (pathArg frm ps) = some (frm, ps) := by
  obtain ⟨lp, dom, rfl, hlp, hlpok, hdom, hdomok, hlast, -⟩ := h
  -- the same list once `[60] ++ _` is computed to a cons
  exact C11_exact_mailbox lp dom ps hlp hlpok hdom hdomok hlast

theorem parseReversePath_pathArg {frm : Bytes} (h : plainMailbox frm) (ps : Bytes) :
    parseReversePath (pathArg frm ps) = some (frm, ps) := by
  rw [parseReversePath, if_neg, parsePath_pathArg h]
  -- not the null path `<>`: the local part is not empty and does not start with `>`
  obtain ⟨lp, dom, rfl, hlp, hlpok, -⟩ := h
  obtain ⟨c, lp', rfl⟩ := List.exists_cons_of_ne_nil hlp
  show ¬((60 : Byte) == 60 && (62 == c && true)) = true
  simp [(head_ne_of_class hlpok (c := 62)).symm]

/-- **the trip on the handler's decoder** -/
theorem mailDecode_pathArg {cfg : Cfg} {frm : Bytes} {ps : List (Bytes × Bytes)} {o : MailOpts} {bm : Bool}
    (hf : plainMailbox frm) (hps : ∀ p ∈ ps, ParamOk p) (hnd : (ps.map (·.1)).Nodup)
    (h : mailParams cfg ps {} false = .ok (o, bm)) :
    mailDecode cfg ("FROM:".b ++ pathArg frm (spaced (ps.map renderParam))) = some (frm, o, bm) := by
  simp only [mailDecode, cutPrefixFold_self, trimSpace_pathArg _ _ hf.facts.2 (rendered_tokens _ hps),
    parseReversePath_pathArg hf, parseArgs_spaced _ hps hnd, h]

theorem rcptDecode_pathArg {cfg : Cfg} {rcpt : Bytes} {ps : List (Bytes × Bytes)} {o : RcptOpts}
    (hf : plainMailbox rcpt) (hps : ∀ p ∈ ps, ParamOk p) (hnd : (ps.map (·.1)).Nodup) (h : rcptParams cfg ps {} = .ok o) :
    rcptDecode cfg ("TO:".b ++ pathArg rcpt (spaced (ps.map renderParam))) = some (rcpt, o) := by
  simp only [rcptDecode, cutPrefixFold_self, trimSpace_pathArg _ _ hf.facts.2 (rendered_tokens _ hps), parsePath_pathArg hf,
    parseArgs_spaced _ hps hnd, h]

/-- **C14_mail_line_trip.**  The whole MAIL line.  For every 7-bit mailbox `local@domain` with a dot-string local part and
    every option value of the domain of `C14_mail_options_trip`, against a greeted server (session `id`, no chunked transfer
    open) that offers and has enabled the extensions (`effCfg`: REQUIRETLS counts as enabled only under TLS): the client model produces a line; that line followed by CRLF is parsed
    by the server model's `parseCmd` into the verb `MAIL` and an argument; and `handleMail` on that argument is exactly the
    `Session.Mail` call with the client's address and the client's options (`mailCall` emits the `mail` event with them and
    answers with the backend's result). -/
theorem C14_mail_line_trip (ext : List (Bytes × Bytes)) (o : Client.MailOptions) (s : S)
    (he : AllExt ext) (hc : CfgOn (effCfg s) o) (hd : MailDomain o)
    (lp dom : Bytes) (hlp : lp ≠ []) (hlpok : lp.all lpOk = true) (hdom : dom ≠ []) (hdomok : dom.all domOk = true)
    (hlast : dom.getLast? ≠ some 64) (hascii : Ascii (lp ++ [64] ++ dom)) (hvl : Client.validLine (lp ++ [64] ++ dom) = true)
    (hhelo : s.c.helo ≠ []) (hb : s.c.bdat = none) (id : Nat) (hs : s.c.session = some id) :
    ∃ line, Client.mailLine ext (lp ++ [64] ++ dom) (some o) = some line ∧
      ∃ arg, parseCmd (line ++ [CR, LF]) = some ("MAIL".b, arg) ∧
        handleMail s arg =
          mailCall (setBinarymime s ((expected o).body == "BINARYMIME".b)) id (lp ++ [64] ++ dom) (expected o) := by
  refine ⟨_, ?_, _, parseCmd_pathArg 77 65 73 76 "FROM:".b (lp ++ [64] ++ dom) ((mailToks o).map renderParam)
    (by decide) (by decide) (by decide +kernel) hascii (rendered_tokens _ (mailToks_ok o hd)),
    handleMail_decoded (mailDecode_pathArg ⟨lp, dom, rfl, hlp, hlpok, hdom, hdomok, hlast, hascii⟩ (mailToks_ok o hd) (mailToks_keys o)
      (server_mailToks (effCfg s) o hc hd)) hhelo hb hs⟩
  rw [Client.mailLine, hvl, client_mailParams ext o he hd]
  simp only [Bool.not_true, Bool.false_eq_true, if_false, lit_MAILFROM, lit_gt, pathArg, List.append_assoc]

/-- **C14_rcpt_line_trip.**  The whole RCPT line, in the same way: for every 7-bit dot-string mailbox and every NOTIFY set /
    rfc822 original recipient of the domain of `C14_rcpt_options_trip`, in a transaction that is open and below the recipient
    limit, the client's line followed by CRLF is parsed into the verb `RCPT` and an argument on which `handleRcpt` is
    exactly the `Session.Rcpt` call with the client's address and options. -/
theorem C14_rcpt_line_trip (ext : List (Bytes × Bytes)) (o : Client.RcptOptions) (s : S)
    (he : Client.hasExt ext "DSN" = true) (hc : s.cfg.dsn = true) (hd : RcptDomain o)
    (lp dom : Bytes) (hlp : lp ≠ []) (hlpok : lp.all lpOk = true) (hdom : dom ≠ []) (hdomok : dom.all domOk = true)
    (hlast : dom.getLast? ≠ some 64) (hascii : Ascii (lp ++ [64] ++ dom)) (hvl : Client.validLine (lp ++ [64] ++ dom) = true)
    (hfrom : s.c.fromReceived = true) (hb : s.c.bdat = none) (id : Nat) (hs : s.c.session = some id)
    (hmax : s.cfg.maxRcpt = 0 ∨ s.c.recipients.length < s.cfg.maxRcpt) :
    ∃ line, Client.rcptLine ext (lp ++ [64] ++ dom) (some o) = some line ∧
      ∃ arg, parseCmd (line ++ [CR, LF]) = some ("RCPT".b, arg) ∧
        handleRcpt s arg = rcptCall s id (lp ++ [64] ++ dom) (expectedRcpt o) := by
  refine ⟨_, ?_, _, parseCmd_pathArg 82 67 80 84 "TO:".b (lp ++ [64] ++ dom) ((rcptToks o).map renderParam)
    (by decide) (by decide) (by decide +kernel) hascii (rendered_tokens _ (rcptToks_ok o hd)),
    handleRcpt_decoded (rcptDecode_pathArg ⟨lp, dom, rfl, hlp, hlpok, hdom, hdomok, hlast, hascii⟩ (rcptToks_ok o hd) (rcptToks_keys o)
      (server_rcptToks s.cfg o hc hd)) hfrom hb hs hmax⟩
  rw [Client.rcptLine, hvl]
  simp only [client_rcptParams ext o he hd, Bool.not_true, Bool.false_eq_true, if_false, lit_RCPTTO, lit_gt, pathArg,
    List.append_assoc]

/-- what `mailCall` hands to the backend: the first thing it does is the callback, recorded with exactly the arguments given -/
theorem mailCall_event (s : S) (id : Nat) (frm : Bytes) (opts : MailOpts) :
    ∃ tl, (mailCall s id frm opts).1.evs = tl ++ Ev.mail id frm opts (popMail s).1 :: s.evs := by
  obtain ⟨tl, h, _⟩ := (mailCall_called s id frm opts).evs
  obtain ⟨be, hp⟩ := popMail_popped s
  exact ⟨tl, by rw [h, emit_evs, hp]⟩

/-! ### non-vacuity: a concrete line through the same functions -/

def exExt : List (Bytes × Bytes) := [("8BITMIME".b, []), ("BINARYMIME".b, []), ("SIZE".b, []), ("REQUIRETLS".b, []),
  ("SMTPUTF8".b, []), ("DSN".b, []), ("AUTH".b, "PLAIN".b)]

example : Client.mailLine exExt "first.last@example.org".b (some { size := 42, ret := "HDRS".b }) =
    some "MAIL FROM:<first.last@example.org> BODY=8BITMIME SIZE=42 RET=HDRS".b := by decide +kernel

example : parseCmd "MAIL FROM:<first.last@example.org> BODY=8BITMIME SIZE=42 RET=HDRS\r\n".b =
    some ("MAIL".b, "FROM:<first.last@example.org> BODY=8BITMIME SIZE=42 RET=HDRS".b) := by decide +kernel

def mailDecodeEx : Option (Bytes × Nat × Bytes) :=
    match cutPrefixFold "FROM:<first.last@example.org> BODY=8BITMIME SIZE=42 RET=HDRS".b "FROM:".b with
    | none => none
    | some a =>
      match parseReversePath (trimSpace a) with
      | none => none
      | some (frm, rest) =>
        match parseArgs rest with
        | none => none
        | some args =>
          match mailParams { dsn := true } args {} false with
          | .ok (o, _) => some (frm, o.size, o.ret)
          | .refuse _ _ _ => none

example : mailDecodeEx = some ("first.last@example.org".b, 42, "HDRS".b) := by decide +kernel

end SmtpV.Props.C14
