import SmtpV.Proofs.ByteEq
import SmtpV.Model.Text
import SmtpV.Spec.ReplySyntax
/-!
# C04 — what the server quotes from the peer's command in a reply is text a reply line may contain

The replies that quote the peer (the unknown command word, the greeting name, the addresses of MAIL and RCPT, the
`<recipient>` prefix of an LMTP status) pass what they quote through `printable` (conn.go; repaired in the commit recorded in
known_findings.json): whatever octets the peer sent, the text of these replies consists of HT, printable ASCII and octets
≥ 0x80 only — no bare CR, no NUL, no DEL — and a value that was fine already is quoted unchanged.
-/
namespace SmtpV.Props.C04
open SmtpV SmtpV.Text SmtpV.Spec.ReplySyntax

def okByte (b : Byte) : Bool := b == 9 || (32 ≤ b.toNat && b.toNat ≤ 126) || b.toNat ≥ 128

theorem textOk_eq (t : Bytes) : textOk t = t.all okByte := rfl

/-- `printable` replaces exactly the octets a reply line may not contain -/
theorem okByte_iff (b : Byte) : okByte b = !((b.toNat < 32 && b != 9) || b == 127) := by
  rw [Bool.eq_iff_iff]
  simp only [okByte, Bool.or_eq_true, Bool.and_eq_true, Bool.not_eq_true', Bool.or_eq_false_iff, Bool.and_eq_false_iff,
    beq_iff_eq, beq_eq_false_iff_ne, bne_eq_false_iff_eq, ne_eq, decide_eq_true_eq, decide_eq_false_iff_not,
    ← UInt8.toNat_inj, UInt8.toNat_ofNat]
  omega

theorem printable_eq (x : Bytes) : printable x = x.map fun b => if okByte b then b else 63 := by
  unfold printable
  congr 1; funext b
  rw [okByte_iff]; cases ((b.toNat < 32 && b != 9) || b == 127) <;> rfl

/-- **C04_echo_printable.**  Whatever the peer sent, what is quoted of it may stand in a reply line. -/
theorem C04_echo_printable (x : Bytes) : textOk (printable x) = true := by
  rw [textOk_eq, printable_eq, List.all_map]
  refine List.all_eq_true.mpr fun b _ => ?_
  dsimp only [Function.comp]
  cases h : okByte b
  · rfl
  · simpa using h

/-- a value that may stand in a reply line is quoted unchanged -/
theorem C04_echo_faithful (x : Bytes) (h : textOk x = true) : printable x = x := by
  rw [printable_eq]
  rw [textOk_eq, List.all_eq_true] at h
  conv => rhs; rw [← List.map_id x]
  exact List.map_congr_left fun b hb => by simp [h b hb]

theorem textOk_append (a b : Bytes) : textOk (a ++ b) = (textOk a && textOk b) := by
  simp [textOk_eq, List.all_append]

/-- **C04_echo_sites.**  The text of the five replies that quote the peer, for every quoted value. -/
theorem C04_echo_sites (x : Bytes) :
    textOk ("Syntax errors, ".b ++ printable x ++ " command unrecognized".b) = true ∧
    textOk ("Hello ".b ++ printable x) = true ∧
    textOk ("Roger, accepting mail from <".b ++ printable x ++ ">".b) = true ∧
    textOk ("I'll make sure <".b ++ printable x ++ "> gets this".b) = true ∧
    (∀ msg, textOk msg = true → textOk ("<".b ++ printable x ++ "> ".b ++ msg) = true) := by
  have hx := C04_echo_printable x
  refine ⟨?_, ?_, ?_, ?_, ?_⟩
  · rw [textOk_append, textOk_append, hx]; decide +kernel
  · rw [textOk_append, hx]; decide +kernel
  · rw [textOk_append, textOk_append, hx]; decide +kernel
  · rw [textOk_append, textOk_append, hx]; decide +kernel
  · intro msg hm
    rw [textOk_append, textOk_append, textOk_append, hx, hm]; decide +kernel

example : printable "AB\rD\x00\x7f\té".b = "AB?D??\té".b := by decide +kernel

end SmtpV.Props.C04
