import SmtpV.Model.Server
/-!
# C17, server side — the handlers hand the backend's error to `writeResponse` unchanged

The link between the server model's handlers and the renderer that `C17_roundtrip` is about.
-/
namespace SmtpV.Props.C17
open SmtpV SmtpV.Text SmtpV.Spec SmtpV.Reply SmtpV.Server

/-- **C17_server_passes_mail_error.**  When the backend's `Mail` returns an `SMTPError{c, e, m}` the server's MAIL handler
    writes exactly `writeResponse(c, e, m)` — the octets `C17_roundtrip` is about — and nothing else. -/
theorem C17_server_passes_mail_error (s : S) (id : Nat) (frm : Bytes) (opts : MailOpts) (c : Nat) (e : Enh) (m : Bytes)
    (rest : List BRes) (hb : s.be.mail = .se c e m :: rest) (hc : s.c.closed = false) :
    (mailCall s id frm opts).1.evs = .w (render c e [m]) :: .mail id frm opts (.se c e m) :: s.evs := by
  unfold mailCall popMail
  simp [hb, write, emit, hc, renderError]

/-- the same for a plain error: `451 4.0.0 <text>` -/
theorem C17_server_passes_mail_plain_error (s : S) (id : Nat) (frm : Bytes) (opts : MailOpts) (m : Bytes)
    (rest : List BRes) (hb : s.be.mail = .er m :: rest) (hc : s.c.closed = false) :
    (mailCall s id frm opts).1.evs = .w (render 451 ⟨4, 0, 0⟩ [m]) :: .mail id frm opts (.er m) :: s.evs := by
  unfold mailCall popMail
  simp [hb, write, emit, hc, renderError]

/-- the same for RCPT -/
theorem C17_server_passes_rcpt_error (s : S) (c : Nat) (e : Enh) (m : Bytes) (rest : List BRes)
    (hb : s.be.rcpt = .se c e m :: rest) (hc : s.c.closed = false) (ev : Ev) :
    (write (emit (popRcpt s).2 ev) (renderError 451 ⟨4, 0, 0⟩ (popRcpt s).1)).evs = .w (render c e [m]) :: ev :: s.evs := by
  unfold popRcpt
  simp [hb, write, emit, hc, renderError]

/-- **C17_server_passes_data_error.**  Plain SMTP: the final reply of DATA is `writeResponse(dataErrorToStatus(result))`,
    written after the rest of the message has been drained and before the transaction is reset. -/
theorem C17_server_passes_data_error (s : S) (k : Nat) (r1 : DataReader.DR) (octets : Bytes) (e : RdEnd) (dec : DataDec)
    (hp : resolveRet dec.ret e ≠ .panic) :
    ∃ s', dataFinishSmtp s k r1 octets e dec =
      (resetConn (replyB s' (dataStatus (resolveRet dec.ret e)).1 (dataStatus (resolveRet dec.ret e)).2.1
        [(dataStatus (resolveRet dec.ret e)).2.2]), false) ∧ s'.evs = s.evs ∧ s'.c = s.c := by
  unfold dataFinishSmtp
  simp only [beq_false_of_ne hp, Bool.false_eq_true, if_false]
  generalize drain _ _ _ = w
  exact ⟨_, rfl, rfl, rfl⟩

end SmtpV.Props.C17
