import SmtpV.Proofs.CutLine
import SmtpV.Proofs.HandlerCases
/-!
# C08 / C07 — a command cut short by the end of the connection is not executed

"A disconnect at every byte position of every conversation": when the peer goes away (or the idle timeout fires) in the middle
of a command line, what had arrived of that line is not a command.  bufio hands such a rest out as a line with a nil error;
`Conn.readLine` (conn.go) turns it back into the connection's error — repaired in the commit recorded in known_findings.json;
before, `MAIL FROM:<a@b> SIZE=1` cut out of `SIZE=1000`, or a final `BDAT 0 LAST` without its CRLF, was executed after the
disconnect (and completed the message).
-/
namespace SmtpV.Props.C08
open SmtpV SmtpV.Wire SmtpV.Server

/-- **C08_cut_line_not_executed.**  For every state of the wire — any buffer content, any segments still to come, any limiter
    state, whatever the source ends with (EOF, timeout, closed) — if no line feed is pending, `Conn.readLine` returns an error:
    the command loop ends without having been given a line. -/
theorem C08_cut_line_not_executed (w : W) (h : NoLF (pending w)) : ∃ e, (readLine w).2 = .error e :=
  readLine_cut w h

/-- the same for the SASL exchange and every other caller: they read through `connReadLine` -/
theorem C08_cut_line_not_read (s : S) (h : NoLF (pending s.w)) : ∃ e, (connReadLine s).2 = .error e := by
  have := readLine_cut s.w h
  unfold connReadLine
  generalize readLine s.w = x at this ⊢
  exact this

/-- **C08_cut_ends_loop.**  The command loop on a connection whose remaining input contains no line feed — the peer went away, or
    stopped, in the middle of a command line: no line is read (no `cmd` event), no callback is made, nothing is executed; at most
    one closing notice (500 for an over-long line, 421 for the idle timeout) is written, and the loop is over. -/
theorem C08_cut_ends_loop (fuel : Nat) (s : S) (h : NoLF (pending s.w)) :
    ∃ tl, (loop fuel s).evs = tl ++ s.evs ∧ ∀ e ∈ tl, ∃ bs, e = Spec.Ev.w bs :=
  let ⟨_, _, _, hw⟩ := loop_cut fuel s h
  hw.evs

-- a rest without line feed is an error …
example : (match (readLine { buf := "BDAT 0 LAST".b, tail := .eof }).2 with | .error .eof => true | _ => false) = true := by decide +kernel
example : (match (readLine { segs := ["MAIL FROM:<a@b> SI".b, "ZE=1".b], tail := .timeout }).2 with | .error .timeout => true | _ => false) = true := by decide +kernel
-- … a terminated line is a line, also when the source fails right behind it
example : (match (readLine { buf := "QUIT\r\n".b, tail := .eof }).2 with | .ok l => l == "QUIT".b | _ => false) = true := by decide +kernel

end SmtpV.Props.C08
