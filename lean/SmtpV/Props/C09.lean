import SmtpV.Proofs.HandlerCases
import SmtpV.Model.Client
import SmtpV.Spec.Monitors
import SmtpV.Props.C03
import SmtpV.Proofs.OrderFacts
import SmtpV.Proofs.OneLine
/-!
# C09 — AUTH is unreachable on insecure connections; the octets cross unaltered (server side)

Proved here: on a connection where AUTH is not permitted `handleAuth` consults nothing and writes
replies only; the base64 layer is exact (`decode ∘ encode = id` on all octet strings).  At-most-once and
the TLS-state rules are part of the ordering monitor (Spec/Order.lean), which accepts every connection of the
server model (`order_accepts_every_connection`); `C09_never_on_insecure_connection` and `C09_at_most_once` below
are its consequences stated on the trace itself.
-/
namespace SmtpV.Props.C09
open SmtpV SmtpV.Spec SmtpV.Server SmtpV.Reply

def isWrite (e : Ev) : Prop := ∃ bs, e = .w bs

/-- **C09_insecure_unreachable.**  Without TLS and without `AllowInsecureAuth` the AUTH command produces
    replies only: no `Auth(mech)` call, no octet handed to a SASL mechanism, no state change. -/
theorem C09_insecure_unreachable (s : S) (arg : Bytes) (h : authAllowed s = false) :
    (∀ e ∈ (handleAuth s arg).1.evs, e ∈ s.evs ∨ isWrite e) ∧ (handleAuth s arg).1.c = s.c ∧
    (handleAuth s arg).2 = false := by
  rcases handleAuth_cases s arg with ⟨bs, he⟩ | ⟨ha, _⟩ | ⟨_, _, _, _, _, ha, _⟩
  · rw [he]
    obtain ⟨tl, h1, h2⟩ := (Wrote.one s bs).evs
    refine ⟨fun e he => ?_, write_c _ _, rfl⟩
    rw [h1] at he
    exact (List.mem_append.mp he).elim (fun h => .inr (h2 e h)) .inl
  · rw [h] at ha; cases ha
  · rw [h] at ha; cases ha

theorem b64_char_facts : ∀ n : Fin 64, b64Val (b64Char n.val) = some n.val ∧ b64Char n.val ≠ 61 := by decide +kernel

theorem b64Val_char (n : Nat) (h : n < 64) : b64Val (b64Char n) = some n := (b64_char_facts ⟨n, h⟩).1
theorem b64Char_ne_pad (n : Nat) (h : n < 64) : (b64Char n == 61) = false := by
  simpa using (b64_char_facts ⟨n, h⟩).2

/-- one group of four digits decodes to the three octets of its 24-bit value -/
theorem decodeAux_group (fuel : Nat) (t : Bytes) (n1 n2 n3 n4 : Nat) (h1 : n1 < 64) (h2 : n2 < 64) (h3 : n3 < 64) (h4 : n4 < 64) :
    b64DecodeAux (fuel + 1) (b64Char n1 :: b64Char n2 :: b64Char n3 :: b64Char n4 :: t) =
      (b64DecodeAux fuel t).map (fun r =>
        UInt8.ofNat ((((n1 * 64 + n2) * 64 + n3) * 64 + n4) / 65536) ::
        UInt8.ofNat ((((n1 * 64 + n2) * 64 + n3) * 64 + n4) / 256 % 256) ::
        UInt8.ofNat ((((n1 * 64 + n2) * 64 + n3) * 64 + n4) % 256) :: r) := by
  simp only [b64DecodeAux, b64Val_char _ h1, b64Val_char _ h2, b64Val_char _ h3, b64Val_char _ h4, b64Char_ne_pad _ h3,
    b64Char_ne_pad _ h4, Bool.false_eq_true, if_false]

/-! The arithmetic of regrouping: octets are digits in base 256, the alphabet's values digits in base 64, and Euclidean division
is unique.  A short last group is the same with two or four zero bits appended (`a * 16`, `v * 4`). -/

theorem digit_last {B r : Nat} (q : Nat) (hr : r < B) : (q * B + r) / B = q ∧ (q * B + r) % B = r :=
  ⟨by rw [Nat.mul_comm, Nat.mul_add_div (by omega), Nat.div_eq_of_lt hr, Nat.add_zero], Nat.mul_add_mod_of_lt hr⟩

theorem digit_lt {A B q r : Nat} (hq : q < A) (hr : r < B) : q * B + r < A * B :=
  Nat.lt_of_lt_of_le (Nat.add_lt_add_left hr _) (Nat.succ_mul q B ▸ Nat.mul_le_mul_right B hq)

theorem b64_digits (v : Nat) : ((v / 262144 * 64 + v / 4096 % 64) * 64 + v / 64 % 64) * 64 + v % 64 = v := by
  rw [show v / 262144 = v / 4096 / 64 from (Nat.div_div_eq_div_mul v 4096 64).symm, Nat.div_add_mod',
    show v / 4096 = v / 64 / 64 from (Nat.div_div_eq_div_mul v 64 64).symm, Nat.div_add_mod', Nat.div_add_mod']

theorem octets3 {a b c : Nat} (hb : b < 256) (hc : c < 256) :
    ((a * 256 + b) * 256 + c) / 65536 = a ∧ ((a * 256 + b) * 256 + c) / 256 % 256 = b ∧
      ((a * 256 + b) * 256 + c) % 256 = c := by
  obtain ⟨h1, h3⟩ := digit_last (a * 256 + b) hc
  obtain ⟨h0, h2⟩ := digit_last a hb
  exact ⟨by rw [show 65536 = 256 * 256 from rfl, ← Nat.div_div_eq_div_mul, h1, h0], by rw [h1, h2], h3⟩

theorem digits_shift (v k m : Nat) : v / k * (k * m) + v % k * m = v * m := by
  rw [← Nat.mul_assoc, ← Nat.add_mul, Nat.div_add_mod']

/-- two octets in three digits: the digits are those of `v * 4` -/
theorem b64_digits2 (v : Nat) : (v / 1024 * 64 + v / 16 % 64) * 64 + v % 16 * 4 = v * 4 := by
  rw [show v / 1024 = v / 16 / 64 from (Nat.div_div_eq_div_mul v 16 64).symm, Nat.div_add_mod']
  exact digits_shift v 16 4

/-- one octet in two digits: the digits are those of `a * 16` -/
theorem b64_digits1 (a : Nat) : a / 4 * 64 + a % 4 * 16 = a * 16 := digits_shift a 4 16

theorem decodeAux_encode (x : Bytes) (fuel : Nat) (hf : x.length < fuel) :
    b64DecodeAux fuel (b64Encode x) = some x := by
  obtain ⟨fuel, rfl⟩ := Nat.exists_eq_add_one.mpr (Nat.zero_lt_of_lt hf)
  fun_induction b64Encode x generalizing fuel with
  | case1 => rfl
  | case2 a v =>
    have h2 : v % 4 * 16 < 64 := (Nat.mul_lt_mul_right (by decide)).2 (Nat.mod_lt _ (by decide))
    simp only [b64DecodeAux, b64Val_char (v / 4) (Nat.div_lt_of_lt_mul a.toNat_lt), b64Val_char _ h2, beq_self_eq_true,
      List.isEmpty_nil, Bool.and_self, if_true]
    rw [b64_digits1, Nat.mul_div_cancel _ (by decide), UInt8.ofNat_toNat]
  | case3 a b v =>
    have h3 : v % 16 * 4 < 64 := (Nat.mul_lt_mul_right (by decide)).2 (Nat.mod_lt _ (by decide))
    have h1 : v / 1024 < 64 := Nat.div_lt_of_lt_mul (show _ < 256 * 256 from digit_lt a.toNat_lt b.toNat_lt)
    obtain ⟨e1, e2⟩ := digit_last a.toNat b.toNat_lt
    simp only [b64DecodeAux, b64Val_char _ h1, b64Val_char (v / 16 % 64) (Nat.mod_lt _ (by decide)), b64Val_char _ h3,
      b64Char_ne_pad _ h3, beq_self_eq_true, List.isEmpty_nil, Bool.false_eq_true, if_false, if_true]
    rw [b64_digits2, show v * 4 / 1024 = v / 256 from Nat.mul_div_mul_right v 256 (by decide), Nat.mul_div_cancel _ (by decide),
      e1, e2, UInt8.ofNat_toNat, UInt8.ofNat_toNat]
  | case4 a b c t v ih =>
    have hf : (b :: c :: t).length < fuel := Nat.lt_of_succ_lt_succ hf
    obtain ⟨fuel, rfl⟩ := Nat.exists_eq_add_one.mpr (Nat.zero_lt_of_lt hf)
    obtain ⟨e1, e2, e3⟩ := octets3 (a := a.toNat) b.toNat_lt c.toNat_lt
    have h1 : v / 262144 < 64 :=
      Nat.div_lt_of_lt_mul (show _ < 256 * 256 * 256 from digit_lt (digit_lt a.toNat_lt b.toNat_lt) c.toNat_lt)
    rw [decodeAux_group _ _ _ _ _ _ h1 (Nat.mod_lt _ (by decide)) (Nat.mod_lt _ (by decide)) (Nat.mod_lt _ (by decide)),
      b64_digits, ih _ (Nat.lt_of_succ_lt (Nat.lt_of_succ_lt hf)), Option.map_some, e1, e2, e3, UInt8.ofNat_toNat,
      UInt8.ofNat_toNat, UInt8.ofNat_toNat]

theorem encode_length (x : Bytes) : x.length ≤ (b64Encode x).length := by
  fun_induction b64Encode x with
  | case1 => exact Nat.le_refl _
  | case2 => exact (by decide : 1 ≤ 4)
  | case3 => exact (by decide : 2 ≤ 4)
  | case4 a b c t v ih => exact Nat.succ_le_succ (Nat.succ_le_succ (Nat.succ_le_succ (Nat.le_succ_of_le ih)))

/-- **C09_octets_exact.**  What the mechanism receives is exactly what the peer encoded: base64 decoding
    inverts encoding on every octet string (empty and binary values included). -/
theorem C09_b64_roundtrip (x : Bytes) : b64Decode (b64Encode x) = some x := by
  unfold b64Decode
  have : (b64Encode x).filter (fun b => b != CR && b != LF) = b64Encode x :=
    List.filter_eq_self.mpr fun b hb => by
      obtain ⟨h1, h2⟩ := OneLine.b64Encode_NoNL x b hb
      exact Bool.and_eq_true_iff.mpr ⟨bne_iff_ne.mpr h2, bne_iff_ne.mpr h1⟩
  simp only [this]
  exact decodeAux_encode x _ (Nat.lt_succ_of_le (encode_length x))

/-- the `=` convention: an initial response written as `=` is the empty (non-nil) response -/
theorem C09_empty_initial_response : decodeSASLResponse [61] = some [] := by decide

example : b64Decode (b64Encode [0, 255, 254, 1]) = some [0, 255, 254, 1] := by decide +kernel
example : b64Decode "A===".b = none := by decide +kernel

open SmtpV.Spec.Order in
/-- **C09_never_on_insecure_connection.**  On a connection that starts in plaintext and never completes a TLS
    handshake, with `AllowInsecureAuth` off: whatever the peer sends (any octets, any segmentation, any number of AUTH
    attempts, any pipelining) and whatever the backend would answer, the complete trace of the connection contains
    no `Auth(mech)` call and no SASL step — the mechanism never receives a single octet. -/
theorem C09_never_on_insecure_connection (s : S) (h : Props.C03.Fresh s) (hins : s.cfg.insecureAuth = false)
    (htls : s.c.tls = false) (hno : ∀ e ∈ (serve s).evs.reverse, isTlsUp e = false) :
    ∀ e ∈ (serve s).evs.reverse, isAuthEv e = false := by
  intro e he
  obtain ⟨pre, post, htr⟩ := List.append_of_mem he
  exact accepted_no_auth_before_tls (htr ▸ Props.C03.order_accepts_every_connection s h) hins (by simp [abs, htls])
    fun x hx => hno x (by simp [htr, hx])

open SmtpV.Spec.Order in
/-- **C09_at_most_once.**  On every connection: once a SASL exchange has succeeded, no `Auth(mech)` call and no SASL
    step happens until that session has ended (Logout — which is what STARTTLS and a new greeting do to it — and a
    new session). -/
theorem C09_at_most_once (s : S) (h : Props.C03.Fresh s) (pre mid post : List Ev) (e1 e2 : Ev)
    (htr : (serve s).evs.reverse = pre ++ e1 :: (mid ++ e2 :: post))
    (h1 : isAuthSuccess e1 = true) (h2 : isAuthEv e2 = true) : ∃ e ∈ mid, endsSession e = true :=
  accepted_auth_once (htr ▸ Props.C03.order_accepts_every_connection s h) h1 h2

open SmtpV.Client in
/-- **C09_client_exchange_rules.**  One round of `Client.Auth`'s loop on the client model, for every challenge, every mechanism
    script and every state: (1) a 334 whose text is not base64 is answered with the cancel token and reported as an error, the
    mechanism sees nothing; (2) a mechanism error on a decodable challenge is answered with the cancel token and reported as an
    error; (3) a mechanism response is sent base64-encoded as the next line — nothing else — and the exchange goes on with the
    server's answer; (4) 235 ends the exchange with success; (5) any other reply is the result, as an SMTP error. -/
theorem C09_client_exchange_rules (fuel : Nat) (c : C) (msg64 : Bytes) (steps : List (Option (Option Bytes))) (seen : List String) :
    (Server.b64Decode msg64 = none →
      authLoop (fuel + 1) c (.ok 334 msg64) steps seen = ((c.cmd 501 [42]).1, some .other, seen)) ∧
    (∀ ch, Server.b64Decode msg64 = some ch →
      authLoop (fuel + 1) c (.ok 334 msg64) (none :: steps) seen = ((c.cmd 501 [42]).1, some .other, seen ++ [hexOfBytes ch])) ∧
    (∀ ch resp, Server.b64Decode msg64 = some ch →
      authLoop (fuel + 1) c (.ok 334 msg64) (some (some resp) :: steps) seen =
        authLoop fuel (c.cmd 0 (Server.b64Encode resp)).1 (c.cmd 0 (Server.b64Encode resp)).2 steps (seen ++ [hexOfBytes ch])) ∧
    authLoop (fuel + 1) c (.ok 235 msg64) steps seen = (c, none, seen) ∧
    (∀ code, code ≠ 334 → code ≠ 235 →
      authLoop (fuel + 1) c (.ok code msg64) steps seen = ((c.cmd 501 [42]).1, some (.smtp (toSMTPErr code msg64)), seen)) := by
  refine ⟨?_, ?_, ?_, ?_, ?_⟩
  · intro h; simp [authLoop, h]
  · intro ch h; simp [authLoop, h]
  · intro ch resp h; simp [authLoop, h]
  · simp [authLoop]
  · intro code h1 h2; simp [authLoop, h1, h2]

end SmtpV.Props.C09
