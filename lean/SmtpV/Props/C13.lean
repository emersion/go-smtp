import SmtpV.Model.Server
import SmtpV.Proofs.StatusChans
/-!
# C13 — LMTP: one status per accepted recipient, in order, correctly attributed

Three layers: the specification of attribution (`Spec.Mon.expectedStatuses`, also the judge of the
implementation's traces), the channel mechanism of conn.go's `statusCollector` (`Model/StatusChans.lean`), and
the bookkeeping the server model uses (`Server.applyStatuses` / `Server.collect`, tied to the code by the
`conv` correspondence).  The theorems connect the three.
-/
namespace SmtpV.Props.C13
open SmtpV SmtpV.Spec SmtpV.Spec.Mon SmtpV.StatusChans

theorem go_fst (calls : List (Bytes × BRes)) (ret : BRes) (rest seen : List Bytes) :
    (expectedStatuses.go calls ret rest seen).map (·.1) = rest := by
  induction rest generalizing seen with
  | nil => rfl
  | cons a rest ih => exact congrArg (a :: ·) (ih _)

/-- **C13_one_per_recipient.**  Exactly one status per accepted recipient, in RCPT order, each labelled with its
    recipient. -/
theorem C13_one_per_recipient (rcpts : List Bytes) (calls : List (Bytes × BRes)) (ret : BRes) :
    (expectedStatuses rcpts calls ret).map (·.1) = rcpts :=
  go_fst calls ret rcpts []

theorem collect_go_eq (q : List (Bytes × BRes)) (fill : BRes) (rest seen : List Bytes) :
    Server.collect.go q fill rest seen = expectedStatuses.go q fill rest seen := by
  induction rest generalizing seen with
  | nil => rfl
  | cons a rest ih => exact congrArg (_ :: ·) (ih _)

/-- **C13_model_is_spec.**  The server model collects the final replies with the specification's own function. -/
theorem C13_model_is_spec (rcpts : List Bytes) (q : List (Bytes × BRes)) (fill : BRes) :
    Server.collect rcpts q fill = expectedStatuses rcpts q fill :=
  collect_go_eq q fill rcpts []

/-- the channel state that corresponds to the model's flat queue `q` of accepted calls -/
def Agree (rcpts : List Bytes) (cs : Chans) (q : List (Bytes × BRes)) : Prop :=
  ∀ b, (b ∈ rcpts → ∃ c, chanOf cs b = some c ∧ c.cap = Mon.countOf b rcpts ∧ c.q = mine q b) ∧
       (b ∉ rcpts → chanOf cs b = none)

/-- the specification's function, defined a second time in `Model/Server.lean` -/
theorem countOf_eq (a : Bytes) (l : List Bytes) : Server.countOf a l = Mon.countOf a l := rfl

theorem mine_length (q : List (Bytes × BRes)) (a : Bytes) :
    (mine q a).length = Mon.countOf a (q.map (·.1)) := by
  rw [mine, Mon.countOf, List.filter_map, List.length_map, List.length_map]; rfl

theorem agree_create (rcpts : List Bytes) : Agree rcpts (create rcpts) [] := by
  intro b
  rw [chanOf_create]
  exact ⟨fun hb => ⟨_, if_pos hb, rfl, rfl⟩, fun hb => if_neg hb⟩

theorem applyStatuses_cons (rcpts : List Bytes) (a : Bytes) (r : BRes) (rest q : List (Bytes × BRes)) :
    Server.applyStatuses rcpts ((a, r) :: rest) q =
      if a ∈ rcpts ∧ (mine q a).length < Mon.countOf a rcpts then Server.applyStatuses rcpts rest (q ++ [(a, r)]) else (q, false) := by
  rw [mine_length]
  by_cases h1 : a ∈ rcpts <;> by_cases h2 : Mon.countOf a rcpts ≤ Mon.countOf a (q.map (·.1)) <;>
    simp [Server.applyStatuses, countOf_eq, h1, h2, Nat.not_lt.mpr]

theorem agree_setStatus (rcpts : List Bytes) (cs : Chans) (q : List (Bytes × BRes)) (h : Agree rcpts cs q) (a : Bytes) (r : BRes) :
    if a ∈ rcpts ∧ (mine q a).length < Mon.countOf a rcpts then
      ∃ cs', setStatus cs a r = some cs' ∧ Agree rcpts cs' (q ++ [(a, r)])
    else setStatus cs a r = none := by
  rw [setStatus_eq]
  by_cases hmem : a ∈ rcpts
  · obtain ⟨c, hc, hcap, hq⟩ := (h a).1 hmem
    simp only [hmem, true_and, hc, Option.bind_some, ← hq, ← hcap]
    by_cases hlt : c.q.length < c.cap
    · simp only [if_pos hlt]
      refine ⟨_, rfl, fun b => ?_⟩
      rw [chanOf_put hc, mine_concat]
      by_cases hba : b = a
      · subst hba
        rw [if_pos rfl, if_pos rfl]
        exact ⟨fun _ => ⟨_, rfl, hcap, congrArg (· ++ [r]) hq⟩, fun hb => absurd hmem hb⟩
      · rw [if_neg hba, if_neg (Ne.symm hba)]
        exact h b
    · simp only [if_neg hlt]
  · simp [hmem, (h a).2 hmem]

theorem agree_setAll (rcpts : List Bytes) (calls : List (Bytes × BRes)) :
    ∀ (q : List (Bytes × BRes)) (cs : Chans), Agree rcpts cs q →
      match setAll cs calls with
      | some cs' => Server.applyStatuses rcpts calls q = (q ++ calls, true) ∧ Agree rcpts cs' (q ++ calls)
      | none => (Server.applyStatuses rcpts calls q).2 = false := by
  induction calls with
  | nil => intro q cs hag; simpa [Server.applyStatuses, setAll] using hag
  | cons call rest ih =>
    intro q cs hag
    obtain ⟨a, r⟩ := call
    have := agree_setStatus rcpts cs q hag a r
    rw [applyStatuses_cons, setAll]
    split at this
    · rename_i hok
      obtain ⟨cs', hs, hag'⟩ := this
      rw [if_pos hok, hs, List.append_cons q _ rest]
      exact ih _ cs' hag'
    · rename_i hno
      rw [if_neg hno, this]

/-- **C13_contract_agrees.**  The model's check of the backend's calls accepts exactly when the channel
    mechanism does not panic, and then the accepted calls are all of them. -/
theorem C13_contract_agrees (rcpts : List Bytes) (calls : List (Bytes × BRes)) :
    ∀ (q : List (Bytes × BRes)) (cs : Chans), Agree rcpts cs q →
      ((Server.applyStatuses rcpts calls q).2 = true ↔ (setAll cs calls).isSome = true) ∧
      ((Server.applyStatuses rcpts calls q).2 = true → (Server.applyStatuses rcpts calls q).1 = q ++ calls) := by
  intro q cs hag
  have := agree_setAll rcpts calls q cs hag
  split at this <;> simp [*]

/-- **C13_mechanism.**  The per-address buffered channels, filled with the return value and read in RCPT order,
    deliver exactly the specified attribution — for every recipient list (duplicates, any order) and every
    sequence of in-contract `SetStatus` calls. -/
theorem C13_mechanism (rcpts : List Bytes) (calls : List (Bytes × BRes)) (ret : BRes) (cs : Chans)
    (h : setAll (create rcpts) calls = some cs) :
    run rcpts calls ret = some (expectedStatuses rcpts calls ret) := by
  have hag := agree_setAll rcpts calls [] _ (agree_create rcpts)
  rw [h] at hag
  simp only [run, h, expectedStatuses]
  apply recvAll_spec calls ret rcpts rcpts [] (fill cs ret) rfl
  intro b hb
  obtain ⟨c, hc, hcap, hq⟩ := (hag.2 b).1 hb
  exact ⟨_, by rw [chanOf_fill, hc]; rfl, by simp only [hcap, hq]; rfl⟩

/-- **C13_attribution.**  End of the chain for the model: when the backend's calls are accepted, the statuses the
    server model writes — one per accepted recipient, in order — are what the channel mechanism of the code
    delivers, which is the specified attribution. -/
theorem C13_attribution (rcpts : List Bytes) (calls : List (Bytes × BRes)) (ret : BRes)
    (h : (Server.applyStatuses rcpts calls []).2 = true) :
    Server.collect rcpts (Server.applyStatuses rcpts calls []).1 ret = expectedStatuses rcpts calls ret ∧
    run rcpts calls ret = some (expectedStatuses rcpts calls ret) := by
  have hag := agree_setAll rcpts calls [] _ (agree_create rcpts)
  split at hag
  · next cs hs => exact ⟨by rw [hag.1, C13_model_is_spec]; rfl, C13_mechanism rcpts calls ret cs hs⟩
  · rw [hag] at h; cases h

/-! ### non-vacuity: a duplicate recipient in a different position, statuses set out of RCPT order -/

example : expectedStatuses ["a".b, "b".b, "a".b] [("b".b, .ok), ("a".b, .er "one".b), ("a".b, .er "two".b)] .ok =
    [("a".b, .er "one".b), ("b".b, .ok), ("a".b, .er "two".b)] := by decide +kernel

example : (Server.applyStatuses ["a".b, "b".b, "a".b] [("b".b, .ok), ("a".b, .er "one".b)] []).2 = true := by
  decide +kernel

/-! ### a BDAT LAST that cannot be delivered (the repaired behaviour) -/

/-- **C13_failed_last_one_per_recipient.**  In LMTP, whatever made the copy of a LAST chunk fail — the backend gave up with
    an error, returned early, panicked, or the source failed — and whatever statuses the backend had set: the response the
    server model writes is the status list of exactly the accepted recipients, in RCPT order (one reply each, naming its
    recipient: `writeLmtpStatuses`). -/
theorem C13_failed_last_one_per_recipient (s : Server.S) (k : Nat) (err : BRes) (hl : s.cfg.lmtp = true) :
    ∃ sts, Server.bdatFailReplies s k true err = Server.writeLmtpStatuses s sts ∧ sts.map (·.1) = s.c.recipients := by
  unfold Server.bdatFailReplies
  rw [hl, Bool.and_self, if_pos rfl]
  have hm : ∀ (f : Bytes → BRes) (l : List Bytes), (l.map (fun a => (a, f a))).map (·.1) = l :=
    fun f l => (List.map_map ..).trans (List.map_id l)
  by_cases hr : Server.delivRunning s k = true
  · exact ⟨_, if_pos hr, hm (fun _ => err) _⟩
  by_cases hs : (!s.cfg.lmtpSess) = true
  · exact ⟨_, (if_neg hr).trans (if_pos hs), hm _ _⟩
  · refine ⟨_, (if_neg hr).trans (if_neg hs), ?_⟩
    rw [C13_model_is_spec]
    exact C13_one_per_recipient _ _ _

end SmtpV.Props.C13
