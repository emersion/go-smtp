import SmtpV.Props.DataMonitor
import SmtpV.Proofs.ParamSwitch
import SmtpV.Proofs.TextFacts
import SmtpV.Proofs.BdatGrow
import SmtpV.Proofs.AcctInv
import SmtpV.Props.C03
/-!
# C06 — MaxMessageBytes bounds what a backend is handed and what is accepted (DATA reader part)

The over-limit BDAT chunk and the declared SIZE follow below, on the server model (`Proofs/BdatGrow.lean`; the SIZE parameter by
the keyword equation `mailParams_SIZE` of `Proofs/ParamSwitch.lean`);
the accounting across chunks, transactions and the whole connection is `C06_no_delivery_over_limit` (`Proofs/AcctInv.lean`).
-/
namespace SmtpV.Props.C06
open SmtpV SmtpV.Spec SmtpV.DataReader SmtpV.Server

/-- **C06_bound_data.**  With limit `n`, whatever the input (terminated or not, hostile or not) and
    whatever the read sizes, the backend is handed at most `n` octets. -/
theorem C06_bound_data (n : Nat) (s : Bytes) (sizes : List Nat) :
    (outs (readSched (freshReader (some n)) s sizes).1).length ≤ n :=
  sched_budget sizes (freshReader (some n)) s rfl

/-- **C06_oversize_never_complete.**  A message longer than the limit is never reported complete:
    no read returns EOF (only `nil` or "too large"), and `n+1` non-empty reads end in "too large". -/
theorem C06_oversize_never_complete (n : Nat) (s body rest : Bytes) (h : Terminated s body rest)
    (hover : n < body.length) (sizes : List Nat) :
    (∀ x ∈ (readSched (freshReader (some n)) s sizes).1, x.2 = .more ∨ x.2 = .tooLarge) ∧
    ((∀ k ∈ sizes, 0 < k) → n < sizes.length →
        ∃ x, (readSched (freshReader (some n)) s sizes).1.getLast? = some x ∧ x.2 = .tooLarge) :=
  sched_over sizes (freshReader (some n)) s body rest (run_terminated s body rest h) (Or.inl rfl) rfl hover

/-- **C06_transparent.**  A message of at most `n` octets is read through the limited reader exactly
    as C01 says for the unlimited one: prefix, no error, EOF ⇒ exact body and leftover, progress. -/
theorem C06_transparent (n : Nat) (s body rest : Bytes) (h : Terminated s body rest)
    (hfit : body.length ≤ n) (sizes : List Nat) :
    outs (readSched (freshReader (some n)) s sizes).1 <+: body ∧
    (∀ x ∈ (readSched (freshReader (some n)) s sizes).1, x.2 = .more ∨ x.2 = .eof) ∧
    (∀ x, (readSched (freshReader (some n)) s sizes).1.getLast? = some x → x.2 = .eof →
        outs (readSched (freshReader (some n)) s sizes).1 = body ∧
        (readSched (freshReader (some n)) s sizes).2.2 = rest) ∧
    ((∀ k ∈ sizes, 0 < k) → body.length < sizes.length →
        ∃ x, (readSched (freshReader (some n)) s sizes).1.getLast? = some x ∧ x.2 = .eof) :=
  sched_fit sizes (freshReader (some n)) s body rest (run_terminated s body rest h) (.inl rfl) (fun _ => hfit)

/-- **C06_eof_is_sticky.**  A reader that has reported the end of the message keeps reporting it — nothing read, nothing taken off
    the stream — whatever its size budget says: a message of exactly the maximum size looks to a backend that reads once more (a
    `bufio` wrapper, a second `ReadAll`) exactly like the same message without a limit.  (Before the repair recorded in
    known_findings.json the second read of an exactly-N message returned "too large", which a backend that propagates reader errors
    turned into 552 for a legal message.) -/
theorem C06_eof_is_sticky (r : DR) (inp : Bytes) (k : Nat) (h : r.state = .eof) :
    DataReader.read r inp k = (r, [], inp, .eof) := read_eof r inp k h

example : (DataReader.read { state := .eof, limited := true, n := 0 } "NOOP\r\n".b 4).2.2.2 = .eof := by decide +kernel

/-- exactly `n`, below and above, with the same 5-octet message -/
example :
    let s := "abc\r\n.\r\nNOOP\r\n".b
    ((readSched (freshReader (some 5)) s [2, 2, 2, 2]).1.map Prod.snd = [.more, .more, .more, .eof]) ∧
    ((readSched (freshReader (some 4)) s [2, 2, 2, 2]).1.map Prod.snd = [.more, .more, .tooLarge]) ∧
    ((readSched (freshReader (some 9)) s [9, 9]).1.map Prod.snd = [.eof]) := by
  decide +kernel

open SmtpV.Server SmtpV.Text

/-- **C06_chunk_over_limit.**  A well-formed `BDAT size [LAST]` inside a transaction whose size would take the message over
    the limit: no delivery is handed a single octet, no end of file is recorded, and the transaction is gone (no sender,
    no recipients, no open transfer) — the command's only other effects are the 552 reply and skipping the payload. -/
theorem C06_chunk_over_limit (s : S) (arg a0 : Bytes) (more : List Bytes) (size : Nat)
    (hf : fields arg = a0 :: more) (hsz : parseUintDec a0 32 = some size) (hm : more.length ≤ 1)
    (henv : s.c.fromReceived = true ∧ s.c.recipients.isEmpty = false) (hlast : bdatLastBad more = false)
    (hover : s.cfg.maxMsg ≠ 0 ∧ s.c.bytesReceived + size > s.cfg.maxMsg) :
    handleBdat s arg = (resetConn (discardChunkN (reply s 552 ⟨5, 3, 4⟩ "Max message size exceeded") (some size)), false) ∧
    SameOctets s (handleBdat s arg).1 ∧ NoNewEof s (handleBdat s arg).1 ∧
    (handleBdat s arg).1.c.fromReceived = false ∧ (handleBdat s arg).1.c.recipients = [] ∧ (handleBdat s arg).1.c.bdat = none := by
  have he := handleBdat_over_limit s arg a0 more size hf hsz hm henv hlast hover
  refine ⟨he, ?_⟩
  rw [he]
  generalize hs1 : reply s 552 ⟨5, 3, 4⟩ "Max message size exceeded" = s1
  have h1 : Quiet s s1 := hs1 ▸ quiet_write _ _
  obtain ⟨w, hw⟩ := discardChunkN_eq s1 (some size)
  rw [hw]
  have h2 := quiet_resetConn (setW s1 w)
  refine ⟨h1.oct.trans ((SameOctets.of_drecs rfl).trans h2.oct), h1.eof.trans ((NoNewEof.of_drecs rfl).trans h2.eof), ?_⟩
  rw [resetConn_c]
  exact ⟨rfl, rfl, rfl⟩

/-- **C06_declared_size_refused.**  A MAIL parameter `SIZE=n` with `n` above the limit (any `n` an int64 can hold: 63 bits since 548a344; RFC 1870 allows 20 digits) makes the parameter switch refuse with 552, whatever follows — `handleMail` then answers and returns without calling the backend. -/
theorem C06_declared_size_refused (cfg : Cfg) (rest : List (Bytes × Bytes)) (o : MailOpts) (bm : Bool) (n : Nat)
    (h : n < 2 ^ 63) (hm : cfg.maxMsg > 0 ∧ n > cfg.maxMsg) :
    Server.mailParams cfg (("SIZE".b, natToDec n) :: rest) o bm = .refuse 552 ⟨5, 3, 4⟩ "Max message size exceeded" := by
  rw [mailParams_SIZE, parseUintDec_natToDec n 63 h]
  simp [hm]

/-- **C06_accepted_chunk_bounded.**  Executing an accepted `BDAT size [LAST]` — in any state, with any backend behaviour, however
    the chunk arrives or fails to arrive — hands no delivery more than `size` further octets; in particular, if every delivery
    so far stays within `N` after `size` more octets (which is what the server's check `bytesReceived + size ≤ N` establishes for
    the running transfer), it still does afterwards. -/
theorem C06_accepted_chunk_bounded (s : S) (size : Nat) (last : Bool) :
    GrowBy s (bdatChunk s size last).1 size ∧
    ∀ N, (∀ j, octLen s j + size ≤ N) → ∀ j, octLen (bdatChunk s size last).1 j ≤ N :=
  ⟨grow_bdatChunk s size last, fun _ h j => Nat.le_trans (grow_bdatChunk s size last j) (h j)⟩

/-- **C06_no_delivery_over_limit.**  On every connection of the server model with a size limit `N` configured — all inputs and
    segmentations, all backend behaviours, DATA and BDAT in any mixture, any number of chunks and transactions, transfers that
    complete, fail or are abandoned — no `Data`/`LMTPData` call is ever handed more than `N` message octets. -/
theorem C06_no_delivery_over_limit (s : S) (h : Props.C03.Fresh s) (hd : s.drecs = []) (hb : s.c.bytesReceived = 0)
    (hm : s.cfg.maxMsg > 0) (j : Nat) (d : DRec) (hj : (serve s).drecs[j]? = some d) :
    d.octets.length ≤ s.cfg.maxMsg := by
  have h0 : Acct s := ⟨fun _ j => by simp [octLen, hd], fun _ => hb ▸ Nat.zero_le _, fun k hk => by rw [h.bdat] at hk; cases hk⟩
  have h1 := acct_serve s h0
  have hcfg := (serve_good (Props.C03.fresh_good s h)).2.1
  have := h1.all (by rw [hcfg]; exact hm) j
  rw [hcfg] at this
  simpa [octLen, hj] using this

/-- the hypotheses are those of a new connection with a limit configured -/
example : Props.C03.Fresh ({ cfg := { maxMsg := 5 } } : S) ∧ ({ cfg := { maxMsg := 5 } } : S).drecs = [] ∧
    ({ cfg := { maxMsg := 5 } } : S).c.bytesReceived = 0 ∧ ({ cfg := { maxMsg := 5 } } : S).cfg.maxMsg > 0 :=
  ⟨⟨rfl, rfl, rfl, rfl, rfl, rfl, rfl, rfl⟩, rfl, rfl, by decide⟩

/-- the invariant behind it, for use at any point of a connection: every delivery within the limit, the running total of accepted
    chunk sizes within the limit, the running transfer's delivery within that total -/
theorem C06_accounting_invariant (s : S) (h : Acct s) : Acct (serve s) := acct_serve s h

end SmtpV.Props.C06
