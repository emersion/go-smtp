import SmtpV.Props.C03
import SmtpV.Proofs.OrderFacts
import SmtpV.Proofs.ClientTLS
/-!
# C10 — STARTTLS discards all plaintext state and input (server side)

Client side: `C10_client_*` below, on the client model (`Model/Client.lean`, tied to client.go by the cstls probes).
-/
namespace SmtpV.Props.C10
open SmtpV SmtpV.Spec SmtpV.Server SmtpV.Reply

/-- the handshake the scripted TLS layer will report succeeds -/
def HsSucceeds (s : S) : Prop := s.be.hs = [] ∨ ∃ t, s.be.hs = true :: t

/-- **C10_offer_iff.**  STARTTLS is accepted (220) only when TLS is configured and not already active:
    otherwise the command changes nothing but the reply stream. -/
theorem C10_refused_unless_available (s : S) (h : s.c.tls = true ∨ s.cfg.tlsAvail = false) :
    (handleStartTLS s).c = s.c ∧ (handleStartTLS s).w = s.w := by
  obtain ⟨_, he⟩ := handleStartTLS_refused s h
  rw [he]; exact ⟨reply_c _ _ _ _, reply_w _ _ _ _⟩

/-- the state in which the handshake takes place: 220 written, its outcome taken off the script -/
theorem handshake_state {s s1 : S} (hw : Wrote 1 s s1) :
    (popHs s1).1 = (popHs s).1 ∧ (popHs s1).2.c = s.c ∧ Quiet s (popHs s1).2 := by
  refine ⟨?_, (popHs_popped _).same.c.trans hw.c, hw.quiet.trans (popHs_popped _).quiet⟩
  obtain ⟨_, _, e⟩ := hw.eq
  rw [e]; unfold popHs; cases s.be.hs <;> rfl

theorem tlsUpgrade_spec (s : S) :
    (tlsUpgrade s).c = { s.c with tls := true, session := none, helo := [], didAuth := false, bdat := none,
                                  bdatStatus := none, bytesReceived := 0, fromReceived := false, recipients := [] } ∧
    (tlsUpgrade s).w = { (s.tlsW.getD {}) with limit := s.cfg.maxLine, cur := 0, tripped := false, buf := [], err := none } ∧
    (tlsUpgrade s).tlsW = none :=
  ⟨tlsUpgrade_c s, (quiet_tlsUpgrade s).w, (quiet_tlsUpgrade s).tlsW⟩

/-- the state `handleStartTLS` reaches when the handshake succeeds, spelled out -/
theorem startTLS_success (s : S) (hav : s.cfg.tlsAvail = true) (hno : s.c.tls = false) (hs : HsSucceeds s) :
    (handleStartTLS s).c = { s.c with tls := true, session := none, helo := [], didAuth := false, bdat := none,
                                      bdatStatus := none, bytesReceived := 0, fromReceived := false, recipients := [] } ∧
    (handleStartTLS s).w = { (s.tlsW.getD {}) with limit := s.cfg.maxLine, cur := 0, tripped := false, buf := [], err := none } ∧
    (handleStartTLS s).tlsW = none := by
  obtain ⟨s1, hw, he⟩ := handleStartTLS_accepted s hno hav
  obtain ⟨h1, h2, hq⟩ := handshake_state hw
  have hok : (popHs s).1 = true := by unfold popHs; rcases hs with h | ⟨t, h⟩ <;> rw [h]
  rw [he, h1, hok, if_pos rfl]
  obtain ⟨uc, uw, ut⟩ := tlsUpgrade_spec (emit (popHs s1).2 (.tlsStart true))
  rw [uc, uw, ut, emit_c, h2, emit_tlsW, emit_cfg, hq.tlsW, hq.cfg]
  exact ⟨rfl, rfl, rfl⟩

/-- **C10_server_fresh.**  After a successful STARTTLS the connection state is the initial state with
    `tls = true` — greeting name, authentication, envelope, open transfer and session are gone; only the
    error count and the session-id counter survive — and the input read from then on is the TLS stream
    alone: whatever plaintext was buffered or pipelined behind the command is dropped. -/
theorem C10_server_fresh (s : S) (hav : s.cfg.tlsAvail = true) (hno : s.c.tls = false) (hs : HsSucceeds s) :
    let s' := handleStartTLS s
    s'.c.tls = true ∧ s'.c.helo = [] ∧ s'.c.didAuth = false ∧ s'.c.session = none ∧ s'.c.fromReceived = false ∧
    s'.c.recipients = [] ∧ s'.c.bdat = none ∧ s'.c.bytesReceived = 0 ∧
    s'.c.errCount = s.c.errCount ∧ s'.c.nextSess = s.c.nextSess ∧
    s'.w.buf = [] ∧ s'.w.segs = (s.tlsW.getD {}).segs ∧ s'.w.cur = 0 ∧ s'.w.tripped = false ∧ s'.tlsW = none := by
  obtain ⟨hc, hw, ht⟩ := startTLS_success s hav hno hs
  simp only [hc, hw, ht]
  simp

/-- **C10_no_plaintext_in_tls.**  Non-interference: two states that differ only in the plaintext still
    buffered or still to come behind the STARTTLS command are in the same state after the upgrade, and
    read the same (TLS) input from then on. -/
theorem C10_no_plaintext_in_tls (s : S) (buf : Bytes) (segs : List Bytes)
    (hav : s.cfg.tlsAvail = true) (hno : s.c.tls = false) (hs : HsSucceeds s) :
    (handleStartTLS { s with w := { s.w with buf := buf, segs := segs } }).w = (handleStartTLS s).w ∧
    (handleStartTLS { s with w := { s.w with buf := buf, segs := segs } }).c = (handleStartTLS s).c := by
  obtain ⟨hc, hw, _⟩ := startTLS_success s hav hno hs
  obtain ⟨hc', hw', _⟩ := startTLS_success { s with w := { s.w with buf := buf, segs := segs } } hav hno hs
  rw [hc, hw, hc', hw']
  simp

/-- **C10_failed_handshake_changes_nothing.**  STARTTLS accepted (220) and then a handshake that fails: the connection state
    is exactly what it was — same session (not logged out), same greeting name and authentication state, same envelope and
    open transfer, TLS still off — and the command reader goes on with the stream it had; only the two replies were written. -/
theorem C10_failed_handshake_changes_nothing (s : S) (hav : s.cfg.tlsAvail = true) (hno : s.c.tls = false)
    (t : List Bool) (hs : s.be.hs = false :: t) :
    (handleStartTLS s).c = s.c ∧ (handleStartTLS s).w = s.w ∧ (handleStartTLS s).tlsW = s.tlsW := by
  obtain ⟨s1, hw, he⟩ := handleStartTLS_accepted s hno hav
  obtain ⟨h1, h2, hq⟩ := handshake_state hw
  have hok : (popHs s).1 = false := by unfold popHs; rw [hs]
  rw [he, h1, hok, if_neg (by decide)]
  have hq2 := fun bs => hq.trans ((quiet_emit _ (.tlsStart false)).trans (quiet_write _ bs))
  exact ⟨by rw [reply_c, emit_c, h2], (hq2 _).w, (hq2 _).tlsW⟩

/-! ### whole connections: consequences of the ordering theorem, stated on the trace -/
open SmtpV.Spec.Order in
/-- **C10_upgrade_discards_session.**  On every connection, after a successful STARTTLS handshake the backend sees
    no Mail, Rcpt, Data, Reset, Auth or SASL step until a new session has been created: nothing learned in plaintext
    (the session, its authentication, its envelope) is used inside TLS, whatever was pipelined behind the command. -/
theorem C10_upgrade_discards_session (s : S) (h : Props.C03.Fresh s) (pre mid post : List Ev) (e : Ev)
    (htr : (serve s).evs.reverse = pre ++ .tlsStart true :: (mid ++ e :: post)) (hu : usesSession e = true) :
    ∃ x ∈ mid, isNs x = true :=
  accepted_upgrade_discards (htr ▸ Props.C03.order_accepts_every_connection s h) hu

open SmtpV.Spec.Order in
/-- **C10_new_session_sees_tls.**  Every session created after a successful handshake is told that TLS is active. -/
theorem C10_new_session_sees_tls (s : S) (h : Props.C03.Fresh s) (pre mid post : List Ev) (id : Nat) (helo : Bytes)
    (tls : Bool) (r : BRes) (htr : (serve s).evs.reverse = pre ++ .tlsStart true :: (mid ++ .ns id helo tls r :: post)) :
    tls = true :=
  accepted_ns_sees_tls (htr ▸ Props.C03.order_accepts_every_connection s h)

/-! ### the client half (NewClientStartTLS / DialStartTLS / SendMail), on the client model -/
open SmtpV.Client in
/-- **C10_client_plain_frozen.**  Once STARTTLS has been answered 220 (`initStartTLS` succeeded), whatever the
    application then calls — any sequence of `Hello`, `Mail`, `Rcpt`, `Data`, writes, `Close`, `Auth`, `Reset`, `Quit`, … — and
    whatever the peer answers or fails to answer, not one more octet is written on the raw socket: either the handshake
    succeeded and everything goes inside TLS, or it failed and the connection is closed. -/
theorem C10_client_plain_frozen (c : C) (h : (c.initStartTLS).2 = none) (calls : List Call) :
    (calls.foldl (fun c k => (c.call k).1) (c.initStartTLS).1).plainLog = (c.initStartTLS).1.plainLog :=
  (calls_sealed calls _ ⟨rfl, initStartTLS_ok c h⟩).1

open SmtpV.Client in
/-- **C10_client_plaintext_only_upgrade.**  Package-level `SendMail`: everything it ever writes on the raw socket is a
    sequence of whole lines out of {EHLO/LHLO name, HELO name, STARTTLS} — no AUTH, MAIL, RCPT, DATA or message octet
    leaves in plaintext, for every peer behaviour (STARTTLS not offered, refused, 220 and no TLS, injected replies). -/
theorem C10_client_plaintext_only_upgrade (c : C) (hi : Idle c) (hp : c.tlsPending = false) (auth : Bool) (frm : Bytes)
    (to : List Bytes) (body : Bytes) :
    ∃ ls : List Bytes, (sendMail c auth frm to body).1.plainLog = c.plainLog ++ ls.flatten ∧ ∀ l ∈ ls, l ∈ upgradeLines c := by
  rcases sendMail_plain c auth frm to body with h | h
  · exact ⟨[], by simp [h], by simp⟩
  · rw [h]; exact initStartTLS_lines c hi

open SmtpV.Client in
/-- **C10_client_stops_when_upgrade_fails.**  When the upgrade does not happen, `SendMail` returns that error and the
    state `initStartTLS` left: nothing is sent after the refusal. -/
theorem C10_client_stops_when_upgrade_fails (c : C) (auth : Bool) (frm : Bytes) (to : List Bytes) (body : Bytes) (e : CErr)
    (h : (c.initStartTLS).2 = some e) :
    sendMail c auth frm to body = (c, "err") ∨ sendMail c auth frm to body = ((c.initStartTLS).1, showErr (some e)) := by
  unfold sendMail
  by_cases hv : (!validLine frm || to.any fun t => !validLine t) = true
  · rw [if_pos hv]; exact Or.inl rfl
  · rw [if_neg hv]
    right
    generalize c.initStartTLS = p at h ⊢
    obtain ⟨c1, e1⟩ := p
    simp only [] at h
    subst h
    rfl

open SmtpV.Client in
/-- the hypotheses are those of a new client -/
example : Idle ({} : C) ∧ ({} : C).tlsPending = false := ⟨⟨rfl, rfl⟩, rfl⟩

end SmtpV.Props.C10
