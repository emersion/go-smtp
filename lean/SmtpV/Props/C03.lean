import SmtpV.Proofs.ServerHandlers
import SmtpV.Proofs.Projections
/-!
# C03 — callbacks follow transaction order; envelopes never leak
# C08 — each session is logged out exactly once; nothing runs after the end

Both are statements about the backend-visible trace of a whole connection.  The server model
(`Server.serve`: greeting, command loop over an arbitrary octet stream in arbitrary segments, every handler,
panic recovery, deferred Close; tied to conn.go/server.go by the `conv` correspondence) is proved to produce only
traces the ordering monitor accepts — for EVERY input, EVERY backend script and EVERY configuration — and the
monitors that judge the implementation's traces (`Mon.check3`, `Mon.check8`) are proved to be projections of it.
-/
namespace SmtpV.Props.C03
open SmtpV SmtpV.Spec SmtpV.Spec.Order SmtpV.Spec.Mon SmtpV.Server

/-- a connection that has not done anything yet: no events, no session, nothing of an envelope -/
structure Fresh (s : S) : Prop where
  evs : s.evs = []
  session : s.c.session = none
  closed : s.c.closed = false
  nextSess : s.c.nextSess = 0
  fromReceived : s.c.fromReceived = false
  bdat : s.c.bdat = none
  recipients : s.c.recipients = []
  didAuth : s.c.didAuth = false

theorem fresh_good (s : S) (h : Fresh s) : Good (abs s.c) s := by
  refine ⟨by simp [h.evs, Order.run], ?_⟩
  exact ⟨fun hc => by simp [h.closed] at hc, fun _ hf => by simp [h.fromReceived] at hf,
    fun hb => by simp [h.bdat] at hb, fun _ _ => ⟨h.recipients, h.didAuth⟩⟩

/-- **order_accepts_every_connection.**  Whatever octets arrive in whatever segments, whatever the backend answers
    (refusals, errors, panics, early returns) and whatever the configuration: the complete trace of the connection is
    accepted by the ordering monitor, the connection ends closed and nobody is left logged in. -/
theorem order_accepts_every_connection (s : S) (h : Fresh s) :
    Order.check s.cfg (abs s.c) (serve s).evs.reverse = [] := by
  obtain ⟨hg, hcfg, hcl, hss⟩ := serve_good (fresh_good s h)
  unfold Order.check
  rw [← hcfg, hg.tr]
  simp [Order.fin, abs, hcl, hss]

/-- **C03_order.**  On every connection the backend sees Mail only in a session created by a greeting, Rcpt only
    after an accepted Mail of the same transaction and within the recipient limit, Data only after an accepted Rcpt
    and once per transaction, and nothing of a transaction after its transfer began until it was reset — the very
    judge applied to the implementation's traces accepts every trace of the model. -/
theorem C03_order (s : S) (h : Fresh s) : Mon.check3 s.cfg (serve s).evs.reverse = [] := by
  rw [Mon.check3, ← show p3 (abs s.c) = {} by simp [p3, abs, h.session]]
  exact check3_of_order (order_accepts_every_connection s h)

/-- **C08_lifecycle.**  Every session is logged out exactly once, no callback or write happens on a session after its
    Logout or after the connection was closed, the connection is closed exactly once and at the end nobody is logged in. -/
theorem C08_lifecycle (s : S) (h : Fresh s) : Mon.check8 (serve s).evs.reverse = [] := by
  rw [Mon.check8, ← show p8 (abs s.c) = {} by simp [p8, abs, h.session, h.closed, h.nextSess]]
  exact check8_of_order (order_accepts_every_connection s h)

/-! the trace the driver prints (and the harness records) has no `cmd` / `tlsStart` events: dropping them changes nothing for
these two judges -/

def visible (e : Ev) : Bool := match e with | .cmd _ => false | .tlsStart _ => false | _ => true

theorem C03_order_visible (s : S) (h : Fresh s) : Mon.check3 s.cfg ((serve s).evs.reverse.filter visible) = [] := by
  unfold Mon.check3
  apply runMon_filter visible
  · intro m e hv
    unfold visible at hv
    split at hv
    · exact .inl rfl
    · exact .inl rfl
    · cases hv
  · exact C03_order s h

theorem C08_lifecycle_visible (s : S) (h : Fresh s) : Mon.check8 ((serve s).evs.reverse.filter visible) = [] := by
  unfold Mon.check8
  apply runMon_filter visible
  · intro m e hv
    unfold visible at hv
    split at hv
    · unfold step8
      cases m.closed
      · exact .inl rfl
      · exact .inr ⟨_, rfl⟩
    · unfold step8
      cases m.closed
      · exact .inl rfl
      · exact .inr ⟨_, rfl⟩
    · cases hv
  · exact C08_lifecycle s h

example (cfg : Cfg) (w : Wire.W) (be : Backend) : Fresh { cfg := cfg, w := w, be := be } :=
  ⟨rfl, rfl, rfl, rfl, rfl, rfl, rfl, rfl⟩

end SmtpV.Props.C03
