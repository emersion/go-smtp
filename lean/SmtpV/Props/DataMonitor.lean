import SmtpV.Proofs.DataSched
import SmtpV.Spec.DataMon
/-!
The DATA monitor accepts the model on **every** stream, limit and read schedule.
This is the single statement from which C01, C02 (reader part), C06 and C07 (reader part)
are read off; the per-property files restate the clauses without the monitor.
-/
namespace SmtpV.Props
open SmtpV SmtpV.Spec SmtpV.DataReader

/-- the reader `newDataReader` builds: unlimited, or with budget `n` -/
def freshReader : Option Nat → DR
  | none => {}
  | some n => { limited := true, n := n }

theorem freshReader_bol (lim : Option Nat) : (freshReader lim).state = .bol := by cases lim <;> rfl

theorem outs_eq (l : List (Bytes × Res)) : DataMon.outs l = DataReader.outs l := rfl

theorem lastIs_iff (l : List (Bytes × Res)) (r : Res) :
    DataMon.lastIs l r = true ↔ ∃ x, l.getLast? = some x ∧ x.2 = r := by
  unfold DataMon.lastIs
  cases l.getLast? <;> simp

theorem allPos_iff (sizes : List Nat) : DataMon.allPos sizes = true ↔ ∀ k ∈ sizes, 0 < k := by
  simp [DataMon.allPos]

/-- the monitor's progress clause, from the progress statement of `sched_fit` / `sched_over` -/
theorem progress_clause {sizes : List Nat} {l : List (Bytes × Res)} {r : Res} {b : Bool}
    (h : (∀ k ∈ sizes, 0 < k) → b = true → ∃ x, l.getLast? = some x ∧ x.2 = r) :
    (DataMon.allPos sizes && b && !DataMon.lastIs l r) = false := by
  cases hp : DataMon.allPos sizes <;> cases hb : b <;> try rfl
  simp [(lastIs_iff _ _).mpr (h ((allPos_iff sizes).mp hp) hb)]

theorem all_res {l : List (Bytes × Res)} {a b : Res} (h : ∀ x ∈ l, x.2 = a ∨ x.2 = b) :
    l.all (fun x => x.2 == a || x.2 == b) = true :=
  List.all_eq_true.mpr fun x hx => Bool.or_eq_true_iff.mpr ((h x hx).imp beq_iff_eq.mpr beq_iff_eq.mpr)

theorem data_monitor_accepts_model (lim : Option Nat) (s : Bytes) (sizes : List Nat) :
    DataMon.check lim s sizes (readSched (freshReader lim) s sizes).1
      (readSched (freshReader lim) s sizes).2.2 = [] := by
  have hst := freshReader_bol lim
  have hB : Boundary (freshReader lim).state := .inl hst
  have hbud : DataMon.leLimit lim (outs (readSched (freshReader lim) s sizes).1).length = true := by
    cases lim with
    | none => rfl
    | some n => exact decide_eq_true (sched_budget sizes (freshReader (some n)) s rfl)
  unfold DataMon.check
  simp only [outs_eq, hbud, if_true, List.nil_append]
  cases hT : terminated? s with
  | none =>
    -- never EOF on an unterminated stream
    simp only
    rw [if_neg]
    intro hany
    obtain ⟨x, hx, hxe⟩ := List.any_eq_true.mp hany
    exact (terminated?_none s).mp hT ⟨_, _, sched_eof_terminated sizes _ s hst x hx (beq_iff_eq.mp hxe)⟩
  | some p =>
    obtain ⟨body, rest0⟩ := p
    have hE : run (freshReader lim).state s = (.eof, body, rest0) := by
      rw [hst]; exact run_terminated s body rest0 ((terminated?_iff s body rest0).mp hT)
    simp only
    by_cases hfits : DataMon.leLimit lim body.length = true
    · rw [if_pos hfits]
      have hfit : (freshReader lim).limited = true → body.length ≤ (freshReader lim).n := by
        cases lim with
        | none => nofun
        | some n => exact fun _ => of_decide_eq_true hfits
      obtain ⟨hpre, hall, hlast, hprog⟩ := sched_fit sizes (freshReader lim) s body rest0 hE hB hfit
      have c1 := List.isPrefixOf_iff_prefix.mpr hpre
      have c2 := all_res hall
      have c3 : (DataMon.lastIs (readSched (freshReader lim) s sizes).1 Res.eof &&
          !(outs (readSched (freshReader lim) s sizes).1 == body &&
            (readSched (freshReader lim) s sizes).2.2 == rest0)) = false := by
        cases hl : DataMon.lastIs (readSched (freshReader lim) s sizes).1 Res.eof with
        | false => rfl
        | true =>
          obtain ⟨x, hx, hxe⟩ := (lastIs_iff _ _).mp hl
          rw [(hlast x hx hxe).1, (hlast x hx hxe).2, beq_self_eq_true, beq_self_eq_true]; rfl
      have c4 := progress_clause (b := decide (body.length < sizes.length)) fun hp hb => hprog hp (of_decide_eq_true hb)
      simp only [c1, c2, c3, c4, if_true, Bool.false_eq_true, if_false, List.append_nil]
    · rw [if_neg hfits]
      cases lim with
      | none => exact absurd rfl hfits
      | some n =>
        have hover : n < body.length := Nat.lt_of_not_le fun h => hfits (decide_eq_true h)
        obtain ⟨hall, hprog⟩ := sched_over sizes (freshReader (some n)) s body rest0 hE hB rfl hover
        have c1 := all_res hall
        have c2 := progress_clause (b := DataMon.limitLt (some n) sizes.length) fun hp hb => hprog hp (of_decide_eq_true hb)
        simp only [c1, c2, if_true, Bool.false_eq_true, if_false, List.append_nil]

end SmtpV.Props
