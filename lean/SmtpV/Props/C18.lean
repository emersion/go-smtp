import SmtpV.Proofs.ClientRun
/-!
# C18 — LMTP client reports each recipient's own status, transaction after transaction

Model level (`Client.C.call`, `Client.lmtpReplies`; tied to client.go by the `cconv` correspondence).
Two halves: the client's recipient list is exactly the recipients accepted since the last accepted MAIL
(so the second and later transactions start clean), and the reply loop of `Close` reads one reply per entry
of that list, in order, handing each to the callback — or, without callback, keeping the first refusal as
`Close`'s error.
-/
namespace SmtpV.Props.C18
open SmtpV SmtpV.Client

theorem showErr_smtp_ne (x : SErr) : showErr (some (.smtp x)) ≠ "nil" := by
  intro h
  have h' := congrArg String.toList h
  simp only [showErr, String.toList_append, show (toString "se~") = "se~" from rfl, String.reduceToList, List.cons_append,
    List.cons.injEq, Char.reduceEq, false_and] at h'

theorem showErr_nil (e : Option CErr) : showErr e = "nil" ↔ e = none := by
  cases e with
  | none => simp [showErr]
  | some e =>
    cases e with
    | smtp x => simp [showErr_smtp_ne]
    | other => simp [showErr]

/-- the list is as it was when the reply is read, and is changed by the bookkeeping after the expected reply alone -/
theorem rcpts_oneCmd {k : Call} {p : OneCmd} (h : k.oneCmd = some p) (c : C) :
    ((c.call k).2.res = "nil" → ∃ c1, c1.rcpts = c.rcpts ∧ (c.call k).1 = p.upd c1) ∧
    ((c.call k).2.res ≠ "nil" → (c.call k).1.rcpts = c.rcpts) := by
  rw [call_oneCmd h]
  obtain ⟨c1, hr, h | ⟨e, h⟩⟩ := p.run_spec (L := fun _ => True) { c with out := c.carry, carry := [] } report (fun _ _ => trivial)
    (fun _ _ _ _ => trivial)
  · rw [h]; exact ⟨fun _ => ⟨c1, hr.fixed.rcpts, rfl⟩, fun h => absurd rfl h⟩
  · rw [h]; exact ⟨fun h => absurd ((showErr_nil _).mp h) nofun, fun _ => hr.fixed.rcpts⟩

/-- **C18_mail_starts_clean.**  An accepted MAIL leaves no recipient of an earlier transaction behind; a MAIL that
    is not accepted changes nothing. -/
theorem C18_mail_starts_clean (c : C) (frm : Bytes) (o : Option MailOptions) :
    ((c.call (.mail frm o)).2.res = "nil" → (c.call (.mail frm o)).1.rcpts = []) ∧
    ((c.call (.mail frm o)).2.res ≠ "nil" → (c.call (.mail frm o)).1.rcpts = c.rcpts) := by
  refine (rcpts_oneCmd rfl c).imp_left fun h hn => ?_
  obtain ⟨c1, _, e⟩ := h hn
  rw [e]

/-- **C18_rcpt_appends.**  An accepted RCPT appends that recipient; a refused one changes nothing. -/
theorem C18_rcpt_appends (c : C) (to : Bytes) (o : Option RcptOptions) :
    ((c.call (.rcpt to o)).2.res = "nil" → (c.call (.rcpt to o)).1.rcpts = c.rcpts ++ [to]) ∧
    ((c.call (.rcpt to o)).2.res ≠ "nil" → (c.call (.rcpt to o)).1.rcpts = c.rcpts) := by
  refine (rcpts_oneCmd rfl c).imp_left fun h hn => ?_
  obtain ⟨c1, h1, e⟩ := h hn
  rw [e, ← h1]

/-- **C18_reset_clears.**  An accepted RSET empties the list; a failed one changes nothing. -/
theorem C18_reset_clears (c : C) :
    ((c.call .reset).2.res = "nil" → (c.call .reset).1.rcpts = []) ∧
    ((c.call .reset).2.res ≠ "nil" → (c.call .reset).1.rcpts = c.rcpts) := by
  refine (rcpts_oneCmd rfl c).imp_left fun h hn => ?_
  obtain ⟨c1, _, e⟩ := h hn
  rw [e]

theorem lmtpReplies_entries (rcpts : List Bytes) : ∀ (c : C) (first : Option CErr) (cbs : List String),
    ∃ vs : List String, vs.length ≤ rcpts.length ∧
      (lmtpReplies rcpts c true first cbs).2.2 = cbs ++ List.zipWith (fun r v => hexOfBytes r ++ "=" ++ v) rcpts vs ∧
      (vs.length = rcpts.length ∨ (lmtpReplies rcpts c true first cbs).2.1 = some .other) := by
  induction rcpts with
  | nil => intro c first cbs; exact ⟨[], Nat.le_refl _, (List.append_nil cbs).symm, .inl rfl⟩
  | cons r rest ih =>
    intro c first cbs
    unfold lmtpReplies
    generalize c.read 250 = p
    obtain ⟨c1, rr⟩ := p
    cases rr with
    | ok code msg =>
      obtain ⟨vs, h1, h2, h3⟩ := ih c1 first (cbs ++ [hexOfBytes r ++ "=nil"])
      exact ⟨"nil" :: vs, Nat.succ_le_succ h1, by simpa [String.append_assoc] using h2, h3.imp_left (congrArg (· + 1))⟩
    | smtpErr e0 =>
      obtain ⟨vs, h1, h2, h3⟩ := ih c1 first (cbs ++ [hexOfBytes r ++ "=" ++ showErr (some (.smtp e0))])
      exact ⟨showErr (some (.smtp e0)) :: vs, Nat.succ_le_succ h1, h2.trans (List.append_assoc _ _ _), h3.imp_left (congrArg (· + 1))⟩
    | proto => exact ⟨[], Nat.zero_le _, (List.append_nil cbs).symm, .inr rfl⟩
    | io => exact ⟨[], Nat.zero_le _, (List.append_nil cbs).symm, .inr rfl⟩

/-- the recipient a callback entry is about -/
def cbRcpt (entry : String) : String := (entry.splitOn "=").headD ""

/-- **C18_one_callback_per_recipient.**  With a callback, the loop produces callback entries for a prefix of the
    recipient list, in order, one each — the whole list unless reading a reply failed (connection trouble),
    in which case `Close` reports an error. -/
theorem C18_one_callback_per_recipient (rcpts : List Bytes) : ∀ (c : C) (first : Option CErr) (cbs : List String),
    ∃ k, k ≤ rcpts.length ∧
      (lmtpReplies rcpts c true first cbs).2.2.length = cbs.length + k ∧
      (lmtpReplies rcpts c true first cbs).2.2.take cbs.length = cbs ∧
      (k = rcpts.length ∨ (lmtpReplies rcpts c true first cbs).2.1 = some .other) ∧
      ∀ i, i < k → ∃ e, (lmtpReplies rcpts c true first cbs).2.2[cbs.length + i]? = some e ∧
        ∃ r, rcpts[i]? = some r ∧ ∃ v, e = hexOfBytes r ++ "=" ++ v := by
  intro c first cbs
  obtain ⟨vs, h1, h2, h3⟩ := lmtpReplies_entries rcpts c first cbs
  refine ⟨vs.length, h1, by rw [h2, List.length_append, List.length_zipWith, Nat.min_eq_right h1], by simp [h2], h3, fun i hi => ?_⟩
  have hr : i < rcpts.length := Nat.lt_of_lt_of_le hi h1
  refine ⟨_, ?_, rcpts[i], by simp [hr], vs[i], rfl⟩
  rw [h2, List.getElem?_append_right (Nat.le_add_right _ _), Nat.add_sub_cancel_left, List.getElem?_zipWith,
    List.getElem?_eq_getElem hr, List.getElem?_eq_getElem hi]

/-- **C18_refusal_not_lost.**  Without a callback a refusal of any recipient after DATA is `Close`'s error: if
    `Close` reports success, every reply that was read was positive. -/
theorem C18_refusal_not_lost (rcpts : List Bytes) : ∀ (c : C) (first : Option CErr) (cbs : List String),
    (lmtpReplies rcpts c false first cbs).2.1 = none → first = none := by
  induction rcpts with
  | nil => intro c first cbs h; exact h
  | cons r rest ih =>
    intro c first cbs h
    unfold lmtpReplies at h
    generalize c.read 250 = p at h
    obtain ⟨c1, rr⟩ := p
    cases rr with
    | ok code msg => exact ih c1 first _ h
    | smtpErr e0 =>
      -- the error carried on is `first` if there is one, else this refusal: never `none`
      have := ih c1 _ cbs h
      cases first with
      | none => cases this
      | some x => exact this
    | proto => cases h
    | io => cases h

end SmtpV.Props.C18
