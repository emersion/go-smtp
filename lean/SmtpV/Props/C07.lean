import SmtpV.Props.DataMonitor
import SmtpV.Proofs.BdatEof
import SmtpV.Proofs.CutLine
/-!
# C07 — an incomplete message is never presented to the backend as complete (DATA reader part)

BDAT (the delivery sees a clean end of file only after a LAST chunk copied in full; an abandoned transfer ends with
`ErrDataReset`) follows below, on the server model (`Proofs/BdatEof.lean`).
-/
namespace SmtpV.Props.C07
open SmtpV SmtpV.Spec SmtpV.DataReader

/-- **C07_data_cut.**  Cut the client's octet stream anywhere: if what arrived does not contain a
    complete terminated message, then no read — with any limit, any buffer sizes — reports EOF. -/
theorem C07_data_cut (lim : Option Nat) (s : Bytes) (cut : Nat) (sizes : List Nat)
    (hnot : ¬ ∃ body rest, Terminated (s.take cut) body rest) :
    ∀ x ∈ (readSched (freshReader lim) (s.take cut) sizes).1, x.2 ≠ .eof :=
  fun x hx hxe => hnot ⟨_, _, sched_eof_terminated sizes _ _ (freshReader_bol lim) x hx hxe⟩

/-- **C07_eof_complete.**  EOF is reported only when every octet of the message has been delivered. -/
theorem C07_eof_complete (lim : Option Nat) (s : Bytes) (sizes : List Nat) (x : Bytes × Res)
    (hx : (readSched (freshReader lim) s sizes).1.getLast? = some x) (hxe : x.2 = .eof) :
    ∃ body rest, Terminated s body rest ∧ outs (readSched (freshReader lim) s sizes).1 = body ∧
      (readSched (freshReader lim) s sizes).2.2 = rest :=
  ⟨_, _, sched_eof_terminated sizes (freshReader lim) s (freshReader_bol lim) x (List.mem_of_getLast? hx) hxe, rfl, rfl⟩

/-- non-vacuity: the same message cut one octet before the end of the marker, and uncut -/
example :
    let s := "ab\r\n.\r\n".b
    ((readSched {} (s.take 6) [9, 9]).1.map Prod.snd = [.ueof]) ∧
    ((readSched {} (s.take 7) [9, 9]).1.map Prod.snd = [.eof]) := by
  decide +kernel

open SmtpV.Server

/-- **C07_bdat_eof_only_after_last.**  Executing an accepted `BDAT` command — whatever state the connection is in, whatever
    the backend does with the octets, however the chunk arrives or fails to arrive — records a clean end of file for a
    delivery only if the command carried `LAST`; and (second part) what follows the copy of a chunk records one only if,
    in addition, the copy of the chunk was complete. -/
theorem C07_bdat_eof_only_after_last (s : S) (size : Nat) (last : Bool) (j : Nat) :
    (eofAt (bdatChunk s size last).1 j → eofAt s j ∨ last = true) ∧
    (∀ k left ce, eofAt (bdatAfterCopy s k size left last ce).1 j → eofAt s j ∨ (last = true ∧ ce = .done)) :=
  ⟨bdatChunk_eof s size last j, fun k left ce h => bdatAfterCopy_eof s k size left last ce j h⟩

/-- **C07_abandoned_is_reset.**  A chunked transfer that is running when the transaction is reset (RSET, a new greeting,
    STARTTLS, a failed chunk) or the connection is closed (QUIT, too many errors, a lost or timed-out connection, Close)
    ends with `ErrDataReset` — its reader never reports end of file. -/
theorem C07_abandoned_is_reset (s : S) (k : Nat) (hb : s.c.bdat = some k) (hr : delivRunning s k = true) :
    (∃ d', (resetConn s).drecs[k]? = some d' ∧ d'.rdEnd = .reset ∧ d'.finished = true) ∧
    (∃ d', (closeConn s).drecs[k]? = some d' ∧ d'.rdEnd = .reset ∧ d'.finished = true) := by
  have hrs : ∀ x : S, (resetSess x).drecs = x.drecs := fun x => by unfold resetSess; split <;> rfl
  have hlo : ∀ x : S, (logoutSess x).drecs = x.drecs := fun x => by unfold logoutSess; split <;> rfl
  have hcs : ∀ x : S, (closeSock x).drecs = x.drecs := fun x => by unfold closeSock; split <;> rfl
  obtain ⟨d', h1, h2, h3⟩ := abortBdat_reset s k hb hr
  exact ⟨⟨d', by rw [show (resetConn s).drecs = (resetSess (abortBdat s)).drecs from rfl, hrs]; exact h1, h2, h3⟩,
    ⟨d', by rw [show (closeConn s).drecs = (closeSock (logoutSess (abortBdat s))).drecs from rfl, hcs, hlo]; exact h1, h2, h3⟩⟩

/-- resetting and closing never add an end-of-file record, whatever the state -/
theorem C07_reset_close_no_eof (s : S) : NoNewEof s (resetConn s) ∧ NoNewEof s (closeConn s) :=
  ⟨(quiet_resetConn s).eof, (quiet_closeConn s).eof⟩

/-- **C07_cut_connection_no_eof.**  The connection ends — the peer disconnects, or the idle timeout fires — while no line feed is
    pending: in the middle of a command line, for instance of the `BDAT 0 LAST` that would have completed the message.  The rest of
    the connection (the command loop, then the deferred `Close`) records no end of file for any delivery: a transfer that was open
    stays incomplete.  (Before e062bf7 the unterminated `BDAT 0 LAST` was executed and the message reported complete.) -/
theorem C07_cut_connection_no_eof (fuel : Nat) (s : S) (h : NoLF (pending s.w)) : NoNewEof s (closeConn (loop fuel s)) :=
  let ⟨_, _, _, hw⟩ := loop_cut fuel s h
  (NoNewEof.of_drecs (s' := setW s _) rfl).trans (hw.quiet.eof.trans (quiet_closeConn _).eof)

end SmtpV.Props.C07
