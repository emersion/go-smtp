import SmtpV.Props.DataMonitor
/-!
# C01 — DATA body reaches the backend byte-exact after RFC 5321 dot-unstuffing

Model: `DataReader.read`/`readSched` (data.go `dataReader.Read`, all `Read` calls a backend makes
with buffer sizes `sizes`).  Spec: `Spec.Terminated` (Spec/Data.lean).
-/
namespace SmtpV.Props.C01
open SmtpV SmtpV.Spec SmtpV.DataReader

/-- **C01_exact.**  For every terminated stream and every sequence of read-buffer sizes, on a reader
    without size limit:
    (1) the octets returned so far are a prefix of the body;
    (2) no read fails;
    (3) if the last read reports EOF, the octets returned are exactly the body and the input left
        unread is exactly what follows the end marker;
    (4) non-empty reads, more of them than the body has octets, do reach EOF. -/
theorem C01_exact (s body rest : Bytes) (h : Terminated s body rest) (sizes : List Nat) :
    outs (readSched {} s sizes).1 <+: body ∧
    (∀ x ∈ (readSched {} s sizes).1, x.2 = .more ∨ x.2 = .eof) ∧
    (∀ x, (readSched {} s sizes).1.getLast? = some x → x.2 = .eof →
        outs (readSched {} s sizes).1 = body ∧ (readSched {} s sizes).2.2 = rest) ∧
    ((∀ k ∈ sizes, 0 < k) → body.length < sizes.length →
        ∃ x, (readSched {} s sizes).1.getLast? = some x ∧ x.2 = .eof) :=
  sched_fit sizes {} s body rest (run_terminated s body rest h) (.inl rfl) nofun

/-- **C01_sched_indep.**  Two read schedules that both run to EOF deliver the same octets and leave the
    same input — the result does not depend on the backend's buffer sizes. -/
theorem C01_sched_indep (s body rest : Bytes) (h : Terminated s body rest) (sz1 sz2 : List Nat)
    (x1 x2 : Bytes × Res)
    (h1 : (readSched {} s sz1).1.getLast? = some x1) (e1 : x1.2 = .eof)
    (h2 : (readSched {} s sz2).1.getLast? = some x2) (e2 : x2.2 = .eof) :
    outs (readSched {} s sz1).1 = outs (readSched {} s sz2).1 ∧
    (readSched {} s sz1).2.2 = (readSched {} s sz2).2.2 :=
  sched_indep {} s sz1 sz2 x1 x2 (List.mem_of_getLast? h1) e1 (List.mem_of_getLast? h2) e2

/-- **C01_transparent.**  Unstuffing touches nothing but one leading dot: every line is delivered
    unchanged or with exactly its first octet `.` removed. -/
theorem C01_transparent (l : Bytes) : unstuff l = l ∨ l = DOT :: unstuff l := by
  cases l with
  | nil => exact .inl rfl
  | cons c t => by_cases hc : c = DOT <;> simp [unstuff, hc]

/-- The specification's decomposition is unique, so "the first end marker" is well defined. -/
theorem C01_spec_unique {s b1 r1 b2 r2 : Bytes} (h1 : Terminated s b1 r1) (h2 : Terminated s b2 r2) :
    b1 = b2 ∧ r1 = r2 :=
  Prod.mk.inj (Prod.mk.inj ((run_terminated s b1 r1 h1).symm.trans (run_terminated s b2 r2 h2))).2

/-- **C01_monitor.**  The executable judge used on implementation output accepts the model on every
    stream and schedule. -/
theorem C01_monitor (s : Bytes) (sizes : List Nat) :
    DataMon.check none s sizes (readSched {} s sizes).1 (readSched {} s sizes).2.2 = [] :=
  data_monitor_accepts_model none s sizes

/-! ### non-vacuity: a concrete stream with stuffed dot, lone CR after a dot, CR CR LF, bare LF, bait -/

def exStream : Bytes :=
  "..a\r\n.\rx\r\nq\r\r\nb\nc\r\n".b ++ ".\r\n".b ++ "MAIL FROM:<bait@x>\r\n".b

example : terminated? exStream = some (".a\r\n\rx\r\nq\r\r\nb\nc\r\n".b, "MAIL FROM:<bait@x>\r\n".b) := by
  decide +kernel

example : (readSched {} exStream [3, 1, 2, 50, 50]).1.map Prod.snd = [.more, .more, .more, .eof] ∧
    outs (readSched {} exStream [3, 1, 2, 50, 50]).1 = ".a\r\n\rx\r\nq\r\r\nb\nc\r\n".b ∧
    (readSched {} exStream [3, 1, 2, 50, 50]).2.2 = "MAIL FROM:<bait@x>\r\n".b := by
  decide +kernel

end SmtpV.Props.C01
