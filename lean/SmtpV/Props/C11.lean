import SmtpV.Proofs.PathParse
/-!
# C11 — MAIL/RCPT arguments reach the backend exactly as sent, or are refused

Model level (`Parse.parsePath` and friends; tied to parse.go by the `parse` correspondence, judged on the
implementation by the reference grammar `Spec.Rfc5321`).  Proved here: on the class of paths every real client
sends — `<local@domain>` with a dot-string local part — and on a quoted-string local part in its minimal form (`quote`)
the parser returns exactly that mailbox and leaves exactly what follows the closing bracket (the parameters); and a
special character in an unquoted local part refuses the whole command.  Other quoted forms, source routes and the
parameter values are decided by the reference-grammar judge and the correspondence (four leniencies of the parser are
known findings).
-/
namespace SmtpV.Props.C11
open SmtpV SmtpV.Text SmtpV.Parse

/-- **C11_exact_mailbox.**  `<local@domain>` with a non-empty dot-string local part and a non-empty domain that does
    not end in `@`: the parser returns exactly `local@domain` and leaves exactly what follows `>`. -/
theorem C11_exact_mailbox (lp dom rest : Bytes) (hlp : lp ≠ []) (hlpok : lp.all lpOk = true)
    (hdom : dom ≠ []) (hdomok : dom.all domOk = true) (hlast : dom.getLast? ≠ some 64) :
    parsePath ([60] ++ lp ++ [64] ++ dom ++ [62] ++ rest) = some (lp ++ [64] ++ dom, rest) := by
  -- the path as a list: `60 :: (lp ++ 64 :: (dom ++ 62 :: rest))`
  conv => lhs; simp only [List.append_assoc, List.cons_append, List.nil_append]
  refine parsePath_angle _ _ _ ?_ (parseMailbox_of_local _ lp dom _ (parseLocalPart_dot lp _ hlp hlpok) hlp hdom hdomok hlast
    (by intro c hc; cases hc; rfl))
  obtain ⟨c, lp', rfl⟩ := List.exists_cons_of_ne_nil hlp
  exact fun t e => head_ne_of_class hlpok rfl (List.head_eq_of_cons_eq e)

/-- **C11_special_refused.**  A special character (one of `( ) < > [ ] : ; \ , "` SP HT) inside an unquoted local part:
    the path — and with it the command — is refused, whatever follows. -/
theorem C11_special_refused (a t : Bytes) (c : Byte) (ha : a.all lpOk = true) (hc : isDotStringStop c = true)
    (hq : a ≠ [] ∨ c ≠ 34) : parsePath ([60] ++ a ++ [c] ++ t) = none := by
  -- the path as a list: `60 :: (a ++ c :: t)`
  conv => lhs; simp only [List.append_assoc, List.cons_append, List.nil_append]
  -- the first octet is neither `@` (no source route) nor `"` (no quoted-string), so the local part is read as a dot-string, and
  -- that stops at `c`
  have hhead : ∀ x r, a ++ c :: t = x :: r → x ≠ 64 ∧ x ≠ 34 := by
    intro x r hx
    cases a with
    | nil =>
      cases hx
      exact ⟨ne_of_class hc, hq.resolve_left (· rfl)⟩
    | cons y a' =>
      cases hx
      exact ⟨head_ne_of_class ha, head_ne_of_class ha⟩
  have hlocal : parseLocalPart (a ++ c :: t) = none := by
    rw [parseLocalPart_plain _ fun r e => (hhead 34 r e).2 rfl, parseDotString_stop a t [] c ha hc]
  have hmb : parseMailbox (a ++ c :: t) = none := by simp [parseMailbox, hlocal]
  have hroute := route_none (a ++ c :: t) (fun r e => (hhead 64 r e).1 rfl)
  simp only [parsePath, hroute, hmb]

/-- the null reverse-path -/
theorem C11_null_sender (rest : Bytes) : parseReversePath ([60, 62] ++ rest) = some ([], rest) := by
  simp [parseReversePath, hasPrefix, List.isPrefixOf, show "<>".b = [60, 62] by decide +kernel]

example : parsePath "<first.last+tag@mail.example.org> SIZE=5".b = some ("first.last+tag@mail.example.org".b, " SIZE=5".b) := by
  decide +kernel

example : parsePath "<a b@c>".b = none := by decide +kernel

/-- **C11_quoted_exact.**  `<"…"@domain>` with any local part written as a quoted-string (backslash and quote escaped): the
    parser returns exactly the unescaped local part, `@`, the domain — and leaves exactly what follows `>`. -/
theorem C11_quoted_exact (lp dom rest : Bytes) (hlp : lp ≠ []) (hdom : dom ≠ []) (hdomok : dom.all domOk = true)
    (hlast : dom.getLast? ≠ some 64) :
    parsePath ([60, 34] ++ quote lp ++ [34, 64] ++ dom ++ [62] ++ rest) = some (lp ++ [64] ++ dom, rest) := by
  -- the path as a list: `60 :: 34 :: (quote lp ++ 34 :: 64 :: (dom ++ 62 :: rest))`
  conv => lhs; simp only [List.append_assoc, List.cons_append, List.nil_append]
  refine parsePath_angle _ _ _ (by intro t e; cases e) (parseMailbox_of_local _ lp dom _ ?_ hlp hdom hdomok hlast
    (by intro c hc; cases hc; rfl))
  rw [parseLocalPart_quoted, parseQuoted_quote]
  rfl

example : parsePath "<\"a\\\"b\\\\\"@example.org> SIZE=1".b = some ("a\"b\\@example.org".b, " SIZE=1".b) := by decide +kernel

end SmtpV.Props.C11
