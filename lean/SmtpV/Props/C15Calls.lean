import SmtpV.Proofs.CallRun
/-!
# C15, whole calls — one command line per protocol step

`Props/C15.lean` shows that the MAIL and RCPT lines contain no CR or LF; here the whole call is followed through
the client model (`Client.C.call`): the implicit greeting/EHLO/HELO, the command, the reply — and what reaches the
connection is counted in whole lines.
-/
namespace SmtpV.Props.C15
open SmtpV SmtpV.Text SmtpV.Client SmtpV.OneLine

/-- **C15_call_whole_lines.**  Any of Hello, Verify, Mail, Rcpt, Reset, Noop, Quit, Extension — with any argument
    values, against any peer — made while no message body is being written: what the call writes is a sequence of
    whole lines `x CRLF` with no CR or LF inside `x`; at most one line for the call itself plus at most two for the
    implicit EHLO/HELO when no hello has been done yet; and the client is left in a state where the same holds for
    the next call (so it holds along every history of such calls). -/
theorem C15_call_whole_lines (c : C) (k : Call) (hs : k.simple = true) (hi : Idle c) (hn : validLine c.localName = true) :
    ∃ ls : List Bytes, (c.call k).2.written = c.carry ++ ls.flatten ∧ ls.length ≤ helloBudget c + 1 ∧
      (∀ l ∈ ls, IsLine l) ∧ Idle (c.call k).1 ∧ validLine (c.call k).1.localName = true :=
  call_lines c k 1 (eq_of_beq (Call.simple_eq k ▸ hs)) hi hn

/-- **C15_one_line_per_call.**  Once the hello exchange is done, a call writes at most ONE command line. -/
theorem C15_one_line_per_call (c : C) (k : Call) (hs : k.simple = true) (hi : Idle c) (hn : validLine c.localName = true)
    (hd : c.didHello = true) :
    (c.call k).2.written = c.carry ∨ ∃ x, NoNL x ∧ (c.call k).2.written = c.carry ++ x ++ crlf := by
  obtain ⟨ls, e, n, m, _, _⟩ := C15_call_whole_lines c k hs hi hn
  have hb : helloBudget c = 0 := by simp [helloBudget, hd]
  rw [hb] at n
  cases ls with
  | nil => left; simpa using e
  | cons l t =>
    cases t with
    | nil =>
      obtain ⟨x, rfl, hx⟩ := m l List.mem_cons_self
      right; exact ⟨x, hx, by simpa using e⟩
    | cons _ _ => simp at n

/-- **C15_auth_whole_lines.**  The `Auth` call, for every mechanism name, initial response, script of the caller's `sasl.Client`
    (responses of any octets, errors, early stops) and every peer: what is written is a sequence of whole lines `x CRLF` with no CR
    or LF inside `x` — the implicit EHLO/HELO, the AUTH line, then one line per round of the exchange (a base64 response or the
    cancel token); a mechanism name containing CR or LF writes nothing of its own (repaired in b0235b7); and the client is left idle
    with its host name clean, so that the same holds for whatever call follows. -/
theorem C15_auth_whole_lines (c : C) (mech : Bytes) (ir : Option Bytes) (steps : List (Option (Option Bytes)))
    (hi : Idle c) (hn : validLine c.localName = true) :
    ∃ ls : List Bytes, (c.call (.auth mech ir steps)).2.written = c.carry ++ ls.flatten ∧
      ls.length ≤ helloBudget c + steps.length + 3 ∧ (∀ l ∈ ls, IsLine l) ∧
      Idle (c.call (.auth mech ir steps)).1 ∧ validLine (c.call (.auth mech ir steps)).1.localName = true :=
  Nat.add_assoc _ _ _ ▸ call_lines c (.auth mech ir steps) _ rfl hi hn

/-- the premises hold for a new client and are kept by every history of such calls -/
theorem C15_history_keeps_premises (cs : List Call) (hcs : ∀ k ∈ cs, k.simple = true) :
    ∀ c : C, Idle c → validLine c.localName = true →
      Idle (cs.foldl (fun c k => (c.call k).1) c) ∧ validLine (cs.foldl (fun c k => (c.call k).1) c).localName = true := by
  induction cs with
  | nil => intro c hi hn; exact ⟨hi, hn⟩
  | cons k rest ih =>
    intro c hi hn
    obtain ⟨_, _, _, _, hi', hn'⟩ := C15_call_whole_lines c k (hcs k (by simp)) hi hn
    exact ih (fun k' hk' => hcs k' (by simp [hk'])) _ hi' hn'

example : Idle ({} : C) ∧ validLine ({} : C).localName = true := ⟨⟨rfl, rfl⟩, by decide +kernel⟩

end SmtpV.Props.C15
