import SmtpV.Proofs.HandlerCases
import SmtpV.Proofs.TextFacts
import SmtpV.Spec.Monitors
/-!
# C12 — EHLO advertises exactly what the configuration enables, and honours it
-/
namespace SmtpV.Props.C12
open SmtpV SmtpV.Spec SmtpV.Server SmtpV.Reply

/-- **C12_caps_exact.**  For every configuration (all limits, all mechanism lists — not only the
    3072 enumerated points) and TLS state, the capability lines the server prints are exactly the
    specification table. -/
theorem C12_caps_exact (s : S) : caps s = Mon.capsTable s.cfg s.c.tls := rfl

/-- **C12_caps_depend_on_config_and_tls_only.**  What a connection advertises is a function of the server's configuration and of
    whether TLS is active — of nothing else the connection has been through (greeting name, authentication, envelope, error count,
    open transfer, backend script, octets pending): every capability list of a connection in the same TLS state is the same list.
    (A client that reads the list again, as the go-smtp client does after `Reset`, finds the same extensions.) -/
theorem C12_caps_depend_on_config_and_tls_only (s s' : S) (hc : s.cfg = s'.cfg) (ht : s.c.tls = s'.c.tls) : caps s = caps s' := by
  rw [C12_caps_exact, C12_caps_exact, hc, ht]

/-- the backend accepts the next session (scripted `ok`, or an exhausted script) -/
def NsAccepts (s : S) : Prop := s.be.ns = [] ∨ ∃ t, s.be.ns = BRes.ok :: t

/-- `Backend.NewSession` accepting: the result, and what of the state the greeting's reply depends on -/
theorem newSession_accepted (s : S) (d : Bytes) (hns : NsAccepts s) :
    (newSession s d).2 = .ok ∧ (newSession s d).1.cfg = s.cfg ∧ (newSession s d).1.c.tls = s.c.tls ∧
      (newSession s d).1.c.closed = s.c.closed := by
  unfold newSession popNs
  rcases hns with h | ⟨t, h⟩ <;> rw [h] <;> exact ⟨rfl, rfl, rfl, rfl⟩

theorem greet_accepted (s : S) (enhanced : Bool) (arg domain : Bytes)
    (hd : Parse.parseHelloArgument arg = some domain) (hs : s.c.session = none) (hns : NsAccepts s) :
    ∃ s', s'.cfg = s.cfg ∧ s'.c.tls = s.c.tls ∧ s'.c.closed = s.c.closed ∧
      handleGreet s enhanced arg = (greetReply s' enhanced domain, false) := by
  obtain ⟨hr, h1, h2, h3⟩ := newSession_accepted (setHelo s domain) domain hns
  rcases handleGreet_cases s enhanced arg with ⟨hn, _⟩ | ⟨d, hd', (⟨hsome, _⟩ | ⟨_, he⟩)⟩
  · rw [hd] at hn; cases hn
  · rw [hs] at hsome; cases hsome
  · cases hd.symm.trans hd'
    exact ⟨_, h1, h2, h3, by rw [he, hr]⟩

theorem greetReply_head (s : S) (enhanced : Bool) (d : Bytes) (hcl : s.c.closed = false) :
    (greetReply s enhanced d).evs.head? = some (.w (if enhanced then render 250 noEnh (("Hello ".b ++ Text.printable d) :: caps s)
      else render 250 ⟨2, 0, 0⟩ ["Hello ".b ++ Text.printable d])) := by
  cases enhanced <;> simp [greetReply, replyB, write, emit, hcl]

/-- what an accepted EHLO/LHLO writes: `250-Hello <domain>` followed by exactly the table -/
theorem C12_ehlo_reply (s : S) (arg domain : Bytes)
    (hd : Parse.parseHelloArgument arg = some domain) (hs : s.c.session = none)
    (hns : NsAccepts s) (hcl : s.c.closed = false) :
    (handleGreet s true arg).1.evs.head? =
      some (.w (render 250 noEnh (("Hello ".b ++ Text.printable domain) :: Mon.capsTable s.cfg s.c.tls))) := by
  obtain ⟨s', hc, ht, hcl', he⟩ := greet_accepted s true arg domain hd hs hns
  rw [he, greetReply_head s' true domain (hcl' ▸ hcl), ← C12_caps_exact, C12_caps_depend_on_config_and_tls_only s' s hc ht]
  rfl

/-- **C12_helo_none.**  HELO lists no extension: its reply is the single line `250 2.0.0 Hello <domain>`. -/
theorem C12_helo_none (s : S) (arg domain : Bytes)
    (hd : Parse.parseHelloArgument arg = some domain) (hs : s.c.session = none)
    (hns : NsAccepts s) (hcl : s.c.closed = false) :
    (handleGreet s false arg).1.evs.head? = some (.w (render 250 ⟨2, 0, 0⟩ ["Hello ".b ++ Text.printable domain])) := by
  obtain ⟨s', -, -, hcl', he⟩ := greet_accepted s false arg domain hd hs hns
  rw [he, greetReply_head s' false domain (hcl' ▸ hcl)]
  rfl

/-- **C12_disabled_504 (MAIL).**  A parameter of an extension the configuration disables, standing
    first in the parameter list, is refused with 504 — whatever follows it. -/
theorem C12_disabled_504_mail (cfg : Cfg) (v : Bytes) (rest : List (Bytes × Bytes)) (o : MailOpts) (bm : Bool) :
    (cfg.utf8 = false → mailParams cfg (("SMTPUTF8".b, v) :: rest) o bm = .refuse 504 ⟨5, 5, 4⟩ "SMTPUTF8 is not implemented") ∧
    (cfg.reqtls = false → mailParams cfg (("REQUIRETLS".b, v) :: rest) o bm = .refuse 504 ⟨5, 5, 4⟩ "REQUIRETLS is not implemented") ∧
    (cfg.binmime = false → mailParams cfg (("BODY".b, "BINARYMIME".b) :: rest) o bm = .refuse 504 ⟨5, 5, 4⟩ "BINARYMIME is not implemented") ∧
    (cfg.dsn = false → mailParams cfg (("RET".b, v) :: rest) o bm = .refuse 504 ⟨5, 5, 4⟩ "RET is not implemented") ∧
    (cfg.dsn = false → mailParams cfg (("ENVID".b, v) :: rest) o bm = .refuse 504 ⟨5, 5, 4⟩ "ENVID is not implemented") := by
  have hup : (Text.toUpper "BINARYMIME".b == "BINARYMIME".b) = true := by decide +kernel
  refine ⟨?_, ?_, ?_, ?_, ?_⟩ <;> intro h
  · rw [mailParams_SMTPUTF8, h]; rfl
  · rw [mailParams_REQUIRETLS, h]; rfl
  · rw [mailParams_BODY, hup, h]; rfl
  · rw [mailParams_RET, h]; rfl
  · rw [mailParams_ENVID, h]; rfl

/-- **C12_disabled_504 (RCPT).** -/
theorem C12_disabled_504_rcpt (cfg : Cfg) (v : Bytes) (rest : List (Bytes × Bytes)) (o : RcptOpts) :
    (cfg.dsn = false → rcptParams cfg (("NOTIFY".b, v) :: rest) o = .refuse 504 ⟨5, 5, 4⟩ "NOTIFY is not implemented") ∧
    (cfg.dsn = false → rcptParams cfg (("ORCPT".b, v) :: rest) o = .refuse 504 ⟨5, 5, 4⟩ "ORCPT is not implemented") ∧
    (cfg.rrvs = false → rcptParams cfg (("RRVS".b, v) :: rest) o = .refuse 504 ⟨5, 5, 4⟩ "RRVS is not implemented") := by
  refine ⟨?_, ?_, ?_⟩ <;> intro h
  · rw [rcptParams_NOTIFY, h]; rfl
  · rw [rcptParams_ORCPT, h]; rfl
  · rw [rcptParams_RRVS, h]; rfl

/-- non-vacuity: a configuration with everything on, under TLS -/
def exCfg : Cfg :=
  { tlsAvail := true, insecureAuth := false, authSess := true, utf8 := true, reqtls := true, binmime := true,
    dsn := true, rrvs := true, maxMsg := 77, maxRcpt := 3, mechs := [[80, 76, 65, 73, 78]] }

example : Mon.capsTable exCfg true =
  ["PIPELINING".b, "8BITMIME".b, "ENHANCEDSTATUSCODES".b, "CHUNKING".b, "AUTH PLAIN".b, "SMTPUTF8".b, "REQUIRETLS".b,
   "BINARYMIME".b, "DSN".b, "SIZE 77".b, "LIMITS RCPTMAX=3".b, "RRVS".b] := by decide +kernel

/-! ### advertised ⇔ honoured -/

/-- the keyword of a capability line: up to the first space -/
def keyword (l : Bytes) : Bytes := l.takeWhile (· != 32)

theorem keyword_lit (k rest : Bytes) (hk : k.all (· != 32) = true) : keyword (k ++ 32 :: rest) = k :=
  (Text.span_first (List.all_eq_true.mp hk) fun c hc => by cases hc; rfl).1

theorem keyword_plain (k : Bytes) (hk : k.all (· != 32) = true) : keyword k = k := by
  simpa [keyword] using List.takeWhile_append_of_pos (l₂ := []) (List.all_eq_true.mp hk)

theorem keyword_append (l k x : Bytes) (hk : keyword l = k) (hl : k.length < l.length) : keyword (l ++ x) = k := by
  subst hk
  unfold keyword at *
  rw [List.takeWhile_append, if_neg (Nat.ne_of_lt hl)]

theorem keyword_spaced (k : Bytes) (l : List Bytes) (hk : k.all (· != 32) = true) :
    keyword (k ++ l.flatMap (fun m => SP :: m)) = k := by
  cases l with
  | nil => rw [List.flatMap_nil, List.append_nil, keyword_plain k hk]
  | cons m ms => exact keyword_lit k _ hk

theorem ite_map {α β} (c : Bool) (x : α) (f : α → β) :
    (if c then [x] else []).map f = if c then [f x] else [] := by cases c <;> rfl

/-- **the keywords of the capability list**, in order -/
theorem caps_keywords (s : S) : (caps s).map keyword =
    ["PIPELINING".b, "8BITMIME".b, "ENHANCEDSTATUSCODES".b, "CHUNKING".b] ++
    (if s.cfg.tlsAvail && !s.c.tls then ["STARTTLS".b] else []) ++
    (if authAllowed s && s.cfg.authSess && !s.cfg.mechs.isEmpty then ["AUTH".b] else []) ++
    (if s.cfg.utf8 then ["SMTPUTF8".b] else []) ++
    (if s.c.tls && s.cfg.reqtls then ["REQUIRETLS".b] else []) ++
    (if s.cfg.binmime then ["BINARYMIME".b] else []) ++
    (if s.cfg.dsn then ["DSN".b] else []) ++
    ["SIZE".b] ++
    (if s.cfg.maxRcpt > 0 then ["LIMITS".b] else []) ++
    (if s.cfg.rrvs then ["RRVS".b] else []) := by
  obtain ⟨k1, k2, k3, k4, k5, k6, k7, k8, k9, k10, k11⟩ :
      keyword "PIPELINING".b = "PIPELINING".b ∧ keyword "8BITMIME".b = "8BITMIME".b ∧
      keyword "ENHANCEDSTATUSCODES".b = "ENHANCEDSTATUSCODES".b ∧ keyword "CHUNKING".b = "CHUNKING".b ∧
      keyword "STARTTLS".b = "STARTTLS".b ∧ keyword "SMTPUTF8".b = "SMTPUTF8".b ∧
      keyword "REQUIRETLS".b = "REQUIRETLS".b ∧ keyword "BINARYMIME".b = "BINARYMIME".b ∧
      keyword "DSN".b = "DSN".b ∧ keyword "RRVS".b = "RRVS".b ∧ keyword "SIZE".b = "SIZE".b := by decide +kernel
  have kS : ∀ x : Bytes, keyword ("SIZE ".b ++ x) = "SIZE".b :=
    fun x => keyword_append _ _ x (by decide +kernel) (by decide +kernel)
  have kL : ∀ x : Bytes, keyword ("LIMITS RCPTMAX=".b ++ x) = "LIMITS".b :=
    fun x => keyword_append _ _ x (by decide +kernel) (by decide +kernel)
  have kA := keyword_spaced "AUTH".b s.cfg.mechs (by decide +kernel)
  simp only [caps, List.map_append, apply_ite (List.map keyword), List.map_cons, List.map_nil,
    k1, k2, k3, k4, k5, k6, k7, k8, k9, k10, k11, kS, kL, kA, ite_self]

/-- **C12_starttls_honoured.**  STARTTLS is in the capability list exactly when the command will be accepted: offered ⇒ answered
    220; not offered ⇒ refused with 502 and nothing else happens. -/
theorem C12_starttls_honoured (s : S) :
    ("STARTTLS".b ∈ (caps s).map keyword ↔ (s.cfg.tlsAvail && !s.c.tls) = true) ∧
    ((s.cfg.tlsAvail && !s.c.tls) = false →
      handleStartTLS s = reply s 502 ⟨5, 5, 1⟩ "Already running in TLS" ∨ handleStartTLS s = reply s 502 ⟨5, 5, 1⟩ "TLS not supported") := by
  constructor
  · simp only [caps_keywords, List.mem_append, List.mem_ite_nil_right, List.mem_cons, List.not_mem_nil, String.b_inj,
      String.reduceEq, or_false, false_or, and_false, and_true]
  · intro h
    unfold handleStartTLS
    cases ht : s.c.tls with
    | true => left; simp
    | false =>
      right
      have : s.cfg.tlsAvail = false := by simpa [ht] using h
      simp [this]

/-- **C12_auth_honoured.**  AUTH is in the capability list exactly when authentication is possible (TLS or AllowInsecureAuth, a
    backend with authentication, a mechanism); on a connection where it is not allowed the command is refused with 523. -/
theorem C12_auth_honoured (s : S) :
    ("AUTH".b ∈ (caps s).map keyword ↔ (authAllowed s && s.cfg.authSess && !s.cfg.mechs.isEmpty) = true) ∧
    (authAllowed s = false → s.c.helo.isEmpty = false → s.c.didAuth = false → ∀ arg m0 more, Text.fields arg = m0 :: more →
      handleAuth s arg = (reply s 523 ⟨5, 7, 10⟩ "TLS is required", false)) := by
  constructor
  · simp only [caps_keywords, List.mem_append, List.mem_ite_nil_right, List.mem_cons, List.not_mem_nil, String.b_inj,
      String.reduceEq, or_false, false_or, and_false, and_true]
  · intro ha hh hd arg m0 more hf
    unfold handleAuth
    simp [hh, hd, hf, ha]

/-- **C12_keyword_iff_enabled.**  Each optional extension is in the capability list exactly when the configuration (and, for
    REQUIRETLS, the TLS state) enables it — together with `C12_disabled_504_*`: not listed (disabled) ⇒ its parameters are refused. -/
theorem C12_keyword_iff_enabled (s : S) :
    ("SMTPUTF8".b ∈ (caps s).map keyword ↔ s.cfg.utf8 = true) ∧
    ("REQUIRETLS".b ∈ (caps s).map keyword ↔ (s.c.tls && s.cfg.reqtls) = true) ∧
    ("BINARYMIME".b ∈ (caps s).map keyword ↔ s.cfg.binmime = true) ∧
    ("DSN".b ∈ (caps s).map keyword ↔ s.cfg.dsn = true) ∧
    ("RRVS".b ∈ (caps s).map keyword ↔ s.cfg.rrvs = true) ∧
    ("LIMITS".b ∈ (caps s).map keyword ↔ s.cfg.maxRcpt > 0) := by
  simp only [caps_keywords, List.mem_append, List.mem_ite_nil_right, List.mem_cons, List.not_mem_nil, String.b_inj,
    String.reduceEq, or_false, false_or, and_false, and_true]

/-- **C12_requiretls_honoured_iff_advertised.**  The MAIL parameter REQUIRETLS is accepted by the parameter switch — as the MAIL
    handler calls it, with `effCfg` — exactly when the capability list of that connection state contains REQUIRETLS; otherwise it
    is refused with 504, whatever follows it.  (Before the repair a server with the extension enabled accepted the parameter on a
    plaintext connection, where it does not advertise it.) -/
theorem C12_requiretls_honoured_iff_advertised (s : S) (rest : List (Bytes × Bytes)) (o : MailOpts) (bm : Bool) :
    ("REQUIRETLS".b ∈ (caps s).map keyword →
      mailParams (effCfg s) (("REQUIRETLS".b, []) :: rest) o bm = mailParams (effCfg s) rest { o with requireTLS := true } bm) ∧
    ("REQUIRETLS".b ∉ (caps s).map keyword →
      mailParams (effCfg s) (("REQUIRETLS".b, []) :: rest) o bm = .refuse 504 ⟨5, 5, 4⟩ "REQUIRETLS is not implemented") := by
  have he : (effCfg s).reqtls = (s.c.tls && s.cfg.reqtls) := Bool.and_comm ..
  rw [(C12_keyword_iff_enabled s).2.1, mailParams_REQUIRETLS, he]
  cases s.c.tls && s.cfg.reqtls <;> simp

end SmtpV.Props.C12
